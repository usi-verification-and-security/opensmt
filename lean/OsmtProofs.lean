import OsmtProofs.Eval
import OsmtProofs.Basics
import OsmtProofs.Prop
import OsmtProofs.Cdcl
import OsmtProofs.Skel
import OsmtProofs.LA
import OsmtProofs.EUF
import OsmtProofs.Smt
import OsmtProofs.Properties.C01
import OsmtProofs.Properties.C11
import OsmtProofs.Properties.C12
import OsmtProofs.Properties.C13
import OsmtProofs.Properties.C26
import OsmtProofs.Properties.C03
import OsmtProofs.Properties.C02
import OsmtProofs.Properties.C05
import OsmtProofs.Frames
import OsmtProofs.Properties.C04
import OsmtProofs.Properties.C15
import OsmtProofs.Mk
import OsmtProofs.Rat
import OsmtProofs.IntRound
import OsmtProofs.Properties.C14
import OsmtProofs.Properties.C27
import OsmtProofs.Properties.C28
import OsmtProofs.Properties.C29
import OsmtProofs.Num
import OsmtProofs.Properties.C16
import OsmtProofs.Properties.C17
import OsmtProofs.Properties.C18
import OsmtProofs.Properties.C19
import OsmtProofs.Names
import OsmtProofs.Properties.C21
import OsmtProofs.Properties.C22
import OsmtProofs.Properties.C23
import OsmtProofs.Properties.C24
import OsmtProofs.Properties.C25
import OsmtProofs.Pipe
import OsmtProofs.Properties.C20
import OsmtProofs.Core
import OsmtProofs.ProofCheck
import OsmtProofs.Properties.C06
import OsmtProofs.Properties.C08
import OsmtProofs.Properties.C10
import OsmtProofs.Properties.C30
