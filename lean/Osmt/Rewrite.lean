import Osmt.Term
/-!
# Preprocessing rewrites (model of `Substitutor`, `DistinctRewriter`, `ArithmeticEqualityRewriter`,
`DivModRewriter`, `IteHandler`)

Each rewrite is a function on terms; `OsmtProofs/Properties/C13.lean` proves (from `OsmtProofs/Rewrite.lean`) that it keeps
the value of the term in every interpretation (equivalences) or in the extension of the interpretation over the fresh symbol (definitions).
-/
namespace Osmt.Rewrite
open Osmt

/-- lookup of a term among the keys of a substitution -/
def lookup (σ : List (Term × Term)) (t : Term) : Option Term :=
  (σ.find? (fun e => e.1 == t)).map (·.2)

mutual
  /-- one top-down pass of a substitution (`Substitutor`): a key is replaced by its target, other terms are rebuilt -/
  def subst (σ : List (Term × Term)) : Term → Term
    | .app o as => match lookup σ (.app o as) with
      | some s => s
      | none => .app o (substList σ as)
  def substList (σ : List (Term × Term)) : List Term → List Term
    | [] => []
    | t :: r => subst σ t :: substList σ r
end

mutual
  /-- the variable `(id, s)` occurs in the term -/
  def occurs (id : Nat) (s : Srt) : Term → Bool
    | .app o as => o == .var id s || occursList id s as
  def occursList (id : Nat) (s : Srt) : List Term → Bool
    | [] => false
    | t :: r => occurs id s t || occursList id s r
end

mutual
  /-- elimination of the variable `(id, s)` by its definition `tgt` -/
  def substVar (id : Nat) (s : Srt) (tgt : Term) : Term → Term
    | .app o as => if o = .var id s then tgt else .app o (substVarList id s tgt as)
  def substVarList (id : Nat) (s : Srt) (tgt : Term) : List Term → List Term
    | [] => []
    | t :: r => substVar id s tgt t :: substVarList id s tgt r
end

/-- updating the value of one variable -/
def setVar (I : Interp) (id : Nat) (s : Srt) (v : Val) : Interp :=
  { I with var := fun i s' => if i = id ∧ s' = s then v else I.var i s' }

/-- `DistinctRewriter`: all pairwise disequalities -/
def pairsNe : List Term → List Term
  | [] => []
  | a :: r => r.map (fun b => Term.app .not [Term.app .eq [a, b]]) ++ pairsNe r
def expandDistinct (args : List Term) : Term := .app .and (pairsNe args)

/-- `ArithmeticEqualityRewriter`: `a = b` on numbers as two inequalities -/
def splitEq (a b : Term) : Term := .app .and [.app .leq [a, b], .app .leq [b, a]]

/-- `IteHandler`: the definition of the auxiliary symbol `v` standing for `ite c a b` -/
def iteDef (v c a b : Term) : Term :=
  .app .and [.app .or [.app .not [c], .app .eq [v, a]], .app .or [c, .app .eq [v, b]]]

/-- `DivModRewriter`: the definition of the auxiliary symbols `q`, `r` standing for `div a d`, `mod a d` (constant `d ≠ 0`) -/
def divModDef (q r a : Term) (d : Int) : Term :=
  .app .and [.app .eq [a, .app .plus [.app .times [.app (.num d) [], q], r]],
             .app .leq [.app (.num 0) [], r],
             .app .leq [r, .app (.num ((d.natAbs : Int) - 1 : Int)) []]]
end Osmt.Rewrite

namespace Osmt.Rewrite
open Osmt
/-- max-arity flattening (`rewriteMaxArityClassic`): a conjunct that is itself a conjunction is replaced by its conjuncts
(the same for disjunctions) -/
def flattenArgs (o : Op) : List Term → List Term
  | [] => []
  | (.app o' as) :: r => if o' = o then as ++ flattenArgs o r else (.app o' as) :: flattenArgs o r

def flatten (o : Op) (args : List Term) : Term := .app o (flattenArgs o args)

/-- the fact learnt from two equality chains that meet at both ends (`learnEqTransitivity`): whichever chain holds, x = z -/
def diamondFact (x y1 y2 z : Term) : Term :=
  .app .or [.app .not [.app .or [.app .and [.app .eq [x, y1], .app .eq [y1, z]], .app .and [.app .eq [x, y2], .app .eq [y2, z]]]],
            .app .eq [x, z]]
end Osmt.Rewrite
