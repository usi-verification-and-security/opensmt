import Osmt.Conc
import OsmtProofs.Basics
namespace Osmt.Conc

theorem Pool.Inv.of_perm {p q : Pool} (h : p.Inv) (hp : (q.free ++ q.inUse).Perm (p.free ++ p.inUse))
    (hc : p.created ≤ q.created) : q.Inv :=
  ⟨hp.nodup_iff.2 h.1, fun x hx => Nat.lt_of_lt_of_le (h.2 x (hp.mem_iff.1 hx)) hc⟩

theorem alloc_inv (p : Pool) (h : p.Inv) : (p.alloc).1.Inv := by
  unfold Pool.alloc
  split
  · rename_i c r hf
    exact h.of_perm (hf ▸ List.perm_middle) (Nat.le_refl _)
  · rename_i hf
    rw [Pool.Inv, hf] at h
    refine ⟨hf ▸ List.nodup_cons.2 ⟨fun hm => Nat.lt_irrefl _ (h.2 _ hm), h.1⟩, fun c hc => ?_⟩
    rcases List.mem_cons.1 (hf ▸ hc) with rfl | hc
    · exact Nat.lt_succ_self _
    · exact Nat.lt_succ_of_lt (h.2 c hc)

theorem release_inv (p : Pool) (c : Nat) (h : p.Inv) (hc : c ∈ p.inUse) : (p.release c).Inv :=
  h.of_perm (List.perm_middle.symm.trans ((List.perm_cons_erase hc).symm.append_left _)) (Nat.le_refl _)

theorem inv_empty : ({} : Pool).Inv := ⟨List.nodup_nil, fun _ hc => nomatch hc⟩

theorem alloc_inUse (p : Pool) : p.alloc.1.inUse = p.alloc.2 :: p.inUse := by
  unfold Pool.alloc; cases p.free <;> rfl

theorem alloc_fresh (p : Pool) (h : p.Inv) : (p.alloc).2 ∉ p.inUse := by
  have := (List.nodup_append.1 (alloc_inv p h).1).2.1
  rw [alloc_inUse] at this
  exact (List.nodup_cons.1 this).1

def Sys.Inv (s : Sys) : Prop := s.pool.Inv ∧ s.owner.map Prod.fst = s.pool.inUse

theorem Sys.Inv.owner_nodup {s : Sys} (h : s.Inv) : (s.owner.map Prod.fst).Nodup :=
  h.2 ▸ (List.nodup_append.1 h.1.1).2.1

theorem sys_step_inv (s : Sys) (op : POp) (h : s.Inv) : (s.step op).Inv := by
  cases op with
  | alloc t => exact ⟨alloc_inv _ h.1, by simp only [Sys.step, List.map_cons, alloc_inUse, h.2]⟩
  | release t c =>
    simp only [Sys.step]
    split
    · rename_i hm
      refine ⟨release_inv _ _ h.1 (h.2 ▸ List.mem_map_of_mem hm), ?_⟩
      show (s.owner.erase (c, t)).map Prod.fst = s.pool.inUse.erase c
      rw [map_erase_of_nodup _ _ _ h.owner_nodup hm, h.2]
    · exact h

theorem sys_inv_init : ({} : Sys).Inv := ⟨inv_empty, rfl⟩

theorem sys_run_inv (s : Sys) (ops : List POp) (h : s.Inv) : (s.run ops).Inv :=
  List.foldlRecOn ops Sys.step h fun s h op _ => sys_step_inv s op h

theorem sys_exclusive (s : Sys) (h : s.Inv) (c t1 t2 : Nat) (h1 : (c, t1) ∈ s.owner) (h2 : (c, t2) ∈ s.owner) : t1 = t2 :=
  (Prod.mk.inj (inj_of_nodup_map h.owner_nodup h1 h2 rfl)).2

theorem sys_alloc_unowned (s : Sys) (h : s.Inv) (t : Nat) : (s.pool.alloc.2, t) ∉ s.owner :=
  fun hm => alloc_fresh _ h.1 (h.2 ▸ List.mem_map_of_mem (f := Prod.fst) hm)

/-! The stop loops.  A request can only end a round undecided, after which it is visible; so of two requests the earlier one answers `unknown`
or what the later one (or none) answers. -/

@[simp] theorem visible_none (k i : Nat) : visible none k i = false := rfl

theorem visible_next (stop : Option (Nat × Nat)) (k i : Nat) (h : visible stop k i = true) :
    visible stop (k + 1) 0 = true := by
  obtain _ | ⟨k0, i0⟩ := stop
  · cases h
  · simp only [visible, Bool.or_eq_true, Bool.and_eq_true, decide_eq_true_eq] at h ⊢
    exact .inl (h.elim Nat.lt_succ_of_lt fun h => h.1 ▸ Nat.lt_succ_self _)

section later
/- `stop'` is visible only where `stop` is: it comes later, or never. -/
variable {stop stop' : Option (Nat × Nat)} (hv : ∀ k i, visible stop' k i = true → visible stop k i = true)
include hv

theorem inner_later (iter : Nat → Nat → Option Ans) (k f i : Nat) :
    inner iter stop k f i = inner iter stop' k f i ∨
    (inner iter stop k f i = none ∧ visible stop (k + 1) 0 = true) := by
  induction f generalizing i with
  | zero => left; rfl
  | succ n ih =>
    simp only [inner]
    cases h : visible stop k i with
    | true => right; exact ⟨if_pos rfl, visible_next stop k i h⟩
    | false =>
      have h' : visible stop' k i = false := Bool.eq_false_iff.2 fun h' => Bool.eq_false_iff.1 h (hv k i h')
      simp only [h', Bool.false_eq_true, if_false]
      cases iter k i with
      | some a => left; rfl
      | none => exact ih (i + 1)

theorem solve2_later (iter : Nat → Nat → Option Ans) (budget : Nat → Nat) (F k : Nat) :
    solve2 iter stop budget F k = .unknown ∨ solve2 iter stop budget F k = solve2 iter stop' budget F k := by
  induction F generalizing k with
  | zero => left; rfl
  | succ n ih =>
    simp only [solve2]
    cases h : visible stop k 0 with
    | true => left; rfl
    | false =>
      have h' : visible stop' k 0 = false := Bool.eq_false_iff.2 fun h' => Bool.eq_false_iff.1 h (hv k 0 h')
      simp only [h', Bool.false_eq_true, if_false]
      rcases inner_later hv iter k (budget k) 0 with he | ⟨hn, hnext⟩
      · rw [he]
        cases inner iter stop' k (budget k) 0 with
        | some a => right; rfl
        | none => exact ih (k + 1)
      · rw [hn]; left
        cases n with
        | zero => rfl
        | succ n => simp only [solve2, hnext, if_true]

end later

theorem solveLoop_seen (search : Nat → Option Ans) (j fuel k : Nat) (h : j ≤ k) :
    solveLoop search (some j) fuel k = .unknown := by
  cases fuel with
  | zero => rfl
  | succ n => simp [solveLoop, h]

theorem solveLoop_succ (search : Nat → Option Ans) (stop : Option Nat) (n k : Nat) (h : ∀ j ∈ stop, k < j) :
    solveLoop search stop (n + 1) k = match search k with | some a => a | none => solveLoop search stop n (k + 1) := by
  cases stop with
  | none => rfl
  | some j => simp only [solveLoop, Nat.not_le.2 (h j rfl), decide_false, Bool.false_eq_true, if_false]; rfl

theorem solveLoop_later (search : Nat → Option Ans) (j : Nat) (stop' : Option Nat) (hj : ∀ j' ∈ stop', j ≤ j')
    (fuel k : Nat) :
    solveLoop search (some j) fuel k = .unknown ∨ solveLoop search (some j) fuel k = solveLoop search stop' fuel k := by
  induction fuel generalizing k with
  | zero => left; rfl
  | succ n ih =>
    by_cases hjk : j ≤ k
    · exact .inl (solveLoop_seen search j _ k hjk)
    · rw [solveLoop_succ _ _ _ _ (fun _ e => Option.some.inj e ▸ Nat.not_le.1 hjk),
        solveLoop_succ _ stop' _ _ (fun j' hm => Nat.lt_of_lt_of_le (Nat.not_le.1 hjk) (hj j' hm))]
      cases search k with
      | some a => right; rfl
      | none => exact ih (k + 1)

theorem stop_undecided_unknown (search : Nat → Option Ans) (j fuel k : Nat)
    (hund : ∀ i, k ≤ i → i < j → search i = none) : solveLoop search (some j) fuel k = .unknown := by
  induction fuel generalizing k with
  | zero => rfl
  | succ n ih =>
    by_cases hjk : j ≤ k
    · exact solveLoop_seen search j _ k hjk
    · rw [solveLoop_succ _ _ _ _ (fun _ e => Option.some.inj e ▸ Nat.not_le.1 hjk), hund k (Nat.le_refl k) (Nat.not_le.1 hjk)]
      exact ih (k + 1) fun i hi => hund i (Nat.le_of_succ_le hi)

end Osmt.Conc
