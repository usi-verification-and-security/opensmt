import Osmt.Proof
/-! Soundness of the resolution-proof checker (C10, C06). -/
namespace Osmt.Proof
open Osmt

/-- resolution on `p` with either orientation of the signs; that the pivot occurs is not needed for soundness -/
theorem resolvent_true (I : Interp) (c1 c2 : TClause) (p : Term) (b : Bool)
    (h1 : clauseTrue I c1 = true) (h2 : clauseTrue I c2 = true) :
    clauseTrue I (c1.filter (· ≠ (p, b)) ++ c2.filter (· ≠ (p, !b))) = true := by
  rw [clauseTrue, List.any_eq_true] at h1 h2 ⊢
  obtain ⟨l1, hl1, t1⟩ := h1
  obtain ⟨l2, hl2, t2⟩ := h2
  by_cases e1 : l1 = (p, b)
  · -- the pivot literal of `c1` is true, so its complement is false and is not the true literal of `c2`
    have e2 : l2 ≠ (p, !b) := by
      rintro rfl; subst e1
      rw [litTrue] at t1 t2
      cases b <;> simp_all
    exact ⟨l2, List.mem_append_right _ (List.mem_filter.mpr ⟨hl2, decide_eq_true e2⟩), t2⟩
  · exact ⟨l1, List.mem_append_left _ (List.mem_filter.mpr ⟨hl1, decide_eq_true e1⟩), t1⟩

theorem resolve_sound (I : Interp) (c1 c2 r : TClause) (p : Term) (h : resolve c1 c2 p = some r)
    (h1 : clauseTrue I c1 = true) (h2 : clauseTrue I c2 = true) : clauseTrue I r = true := by
  unfold resolve at h
  split at h
  · cases h; exact resolvent_true I c1 c2 p false h1 h2
  · split at h <;> cases h
    exact resolvent_true I c1 c2 p true h1 h2

def AllTrue (I : Interp) (cls : Array TClause) : Prop := ∀ c ∈ cls, clauseTrue I c = true

theorem AllTrue.get {I : Interp} {cls : Array TClause} (hc : AllTrue I cls) {j : Nat} {c : TClause}
    (h : cls[j]? = some c) : clauseTrue I c = true := hc c (Array.mem_of_getElem? h)

theorem runChain_sound (I : Interp) (cls : Array TClause) (hc : AllTrue I cls) :
    ∀ (rest : List (Nat × Term)) (acc r : TClause), clauseTrue I acc = true → runChain cls acc rest = some r →
      clauseTrue I r = true
  | [], acc, r, ha, h => by cases h; exact ha
  | (j, p) :: rest, acc, r, ha, h => by
    rw [runChain] at h
    split at h
    · cases h
    · rename_i c hj
      split at h
      · cases h
      · rename_i acc' hr
        exact runChain_sound I cls hc rest acc' r (resolve_sound I acc c acc' p hr ha (hc.get hj)) h

theorem runSteps_sound (I : Interp) : ∀ (steps : List Step) (cls cls' : Array TClause), AllTrue I cls →
    (∀ l ∈ leaves steps, clauseTrue I l = true) → runSteps steps cls = some cls' → AllTrue I cls'
  | [], cls, cls', hc, _, h => by cases h; exact hc
  | s :: r, cls, cls', hc, hl, h => by
    rw [runSteps] at h
    split at h
    · rename_i c hs
      have push (hct : clauseTrue I c = true) : AllTrue I (cls.push c) := fun c' hc' =>
        (Array.mem_push.mp hc').elim (hc c') (· ▸ hct)
      cases s with
      | leaf l =>
        cases hs
        obtain ⟨hl0, hlr⟩ := List.forall_mem_cons.mp hl
        exact runSteps_sound I r _ cls' (push hl0) hlr h
      | chain first rest =>
        rw [stepClause] at hs
        split at hs
        · cases hs
        · exact runSteps_sound I r _ cls' (push (runChain_sound I cls hc rest _ c (hc.get ‹_›) hs)) hl h
    · cases h

/-- **C10 / C06**: a refutation accepted by the checker (every referenced clause bound, every pivot occurring with
opposite signs, the root clause empty) shows that its leaves cannot all be true in any interpretation -/
theorem checkRefutation_sound (steps : List Step) (root : Nat) (h : checkRefutation steps root = true) :
    ¬ ∃ I : Interp, ∀ l ∈ leaves steps, clauseTrue I l = true := by
  rintro ⟨I, hl⟩
  unfold checkRefutation at h
  split at h
  · cases h
  · rename_i cls hr
    split at h
    · rename_i c hc
      have := (runSteps_sound I steps #[] cls (fun _ h => nomatch h) hl hr).get hc
      rw [List.isEmpty_iff.mp h] at this
      cases this
    · cases h

end Osmt.Proof
