import Osmt.Skel
import OsmtProofs.Eval
/-! Boolean terms have Boolean values; soundness of three-valued evaluation and of input-clause acceptance. -/
namespace Osmt

namespace Mk
theorem eval_of_isBool (I : Interp) (hI : I.WF) (t : Term) (h : t.isBool = true) : eval I t = .b (evalB I t) := by
  fun_induction Term.isBool t
  any_goals rfl  -- the Boolean operators
  -- what remains, in the order of `isBool`: `var`, `uf`, `ite c a b`, an `ite` of another arity, the non-Boolean operators
  · cases of_decide_eq_true h; exact Val.hasSort_bool (hI.1 _ .bool)
  · cases of_decide_eq_true h; exact Val.hasSort_bool (hI.2 _ .bool _)
  · rename_i c a b iha ihb
    have h := Bool.and_eq_true_iff.mp h
    rw [evalB, eval_ite, iha h.1, ihb h.2]; cases evalB I c <;> rfl
  · rename_i as hne
    match as, hne with
    | [], _ | [_], _ | [_, _], _ | _ :: _ :: _ :: _ :: _, _ => rfl
    | [c, a, b], hne => exact (hne c a b rfl).elim
  · cases h
end Mk

def PAssign.Agrees (I : Interp) (p : PAssign) : Prop := ∀ e ∈ p, eval I e.1 = .b e.2

/-- `ws` with the positions that three-valued evaluation knows overwritten by what it knows.  Soundness of a
three-valued connective says: its verdict holds of every completion of its arguments. -/
def complete : List (Option Bool) → List Val → List Val
  | [], _ => []
  | ob :: obs, ws => (ob.elim (ws.headD (.b false)) .b) :: complete obs ws.tail

theorem get_sound {I : Interp} {p : PAssign} {t : Term} {b : Bool} (hp : p.Agrees I)
    (h : p.get t = some b) : eval I t = .b b := by
  unfold PAssign.get at h
  split at h <;> cases h
  rename_i e he
  have ht := List.find?_some he
  exact of_decide_eq_true ht ▸ hp e (List.mem_of_find?_eq_some he)

theorem and3_sound (obs : List (Option Bool)) : ∀ (ws : List Val) (b : Bool), and3 obs = some b →
    (complete obs ws).all Val.toBool = b := by
  induction obs with
  | nil => intro _ _ h; cases h; rfl
  | cons ob obs ih =>
    intro ws b h
    unfold and3 at h; rw [complete, List.all_cons]
    split at h <;> cases h
    · rfl
    · rw [ih _ false ‹_›]; exact Bool.and_false _
    · rw [ih _ true ‹_›]; rfl

theorem or3_sound (obs : List (Option Bool)) : ∀ (ws : List Val) (b : Bool), or3 obs = some b →
    (complete obs ws).any Val.toBool = b := by
  induction obs with
  | nil => intro _ _ h; cases h; rfl
  | cons ob obs ih =>
    intro ws b h
    unfold or3 at h; rw [complete, List.any_cons]
    split at h <;> cases h
    · rfl
    · rw [ih _ true ‹_›]; exact Bool.or_true _
    · rw [ih _ false ‹_›]; rfl

theorem conn3_sound (I : Interp) (o : Op) (obs : List (Option Bool)) (b : Bool) (h : conn3 o obs = some b)
    (ws : List Val) : applyOp I o (complete obs ws) = .b b := by
  unfold conn3 at h
  split at h
  -- rows of `conn3` that need more than computation: 4 `and`, 5 `or`, 8 `imp _ true`, 10 `eq`, 13 `ite` on an unknown condition
  case h_4 => exact congrArg Val.b (and3_sound obs ws b h)
  case h_5 => exact congrArg Val.b (or3_sound obs ws b h)
  case h_8 => cases h; exact congrArg Val.b (Bool.or_true _)
  case h_10 => cases h; simp [complete, applyOp, allEqAdj, Bool.beq_eq_decide_eq]
  case h_13 => split at h <;> cases h; rename_i hab; subst hab; exact ite_self _
  all_goals cases h <;> rfl

mutual
  theorem eval3_sound (I : Interp) (p : PAssign) (hp : p.Agrees I) :
      ∀ (t : Term) (b : Bool), eval3 p t = some b → eval I t = .b b
    | .app o as, b, h => by
      unfold eval3 at h
      split at h
      · cases h; exact get_sound hp ‹_›
      · rw [eval, ← eval3List_sound I p hp as]; exact conn3_sound I o _ b h _
  theorem eval3List_sound (I : Interp) (p : PAssign) (hp : p.Agrees I) :
      ∀ (ts : List Term), complete (eval3List p ts) (evalList I ts) = evalList I ts
    | [] => rfl
    | t :: r => by
      rw [eval3List, evalList, complete, List.tail_cons, eval3List_sound I p hp r]
      cases h : eval3 p t with
      | none => rfl
      | some b => rw [eval3_sound I p hp t b h]; rfl
end

theorem struct3_sound (I : Interp) (p : PAssign) (hp : p.Agrees I) :
    ∀ (t : Term) (b : Bool), struct3 p t = some b → eval I t = .b b
  | .app o as, b, h => by rw [eval, ← eval3List_sound I p hp as]; exact conn3_sound I o _ b h _

theorem Lit.eval_induced {vm : VarMap} {I : Interp} {l : Lit} {t : Term} (ht : vm l.var = some t) :
    l.eval (inducedAsg vm I) = (evalB I t != l.neg) := by
  rw [Lit.eval, inducedAsg, ht]; cases l.neg <;> simp

theorem falsify_agrees (vm : VarMap) (I : Interp) (hI : I.WF) : ∀ (c : Clause) (p : PAssign),
    falsify vm c = some p → Clause.eval (inducedAsg vm I) c = false → p.Agrees I
  | [], p, h, _ => by cases h; exact fun _ he => nomatch he
  | l :: r, p, h, hc => by
    unfold falsify at h
    split at h
    · rename_i t p' ht hp'
      split at h <;> cases h
      rename_i hb
      rw [Clause.eval, List.any_cons, Bool.or_eq_false_iff] at hc
      intro e he
      rcases List.mem_cons.mp he with rfl | he
      · rw [Mk.eval_of_isBool I hI t hb, ← bne_eq_false_iff_eq.mp ((Lit.eval_induced ht).symm.trans hc.1)]
      · exact falsify_agrees vm I hI r p' hp' hc.2 e he
    · cases h

/-- **Input-clause acceptance is sound**: if `inputOk` accepts `c` for `root`, then every well-formed
interpretation that makes `root` true makes `c` true under the induced propositional assignment. -/
theorem inputOk_sound (vm : VarMap) (root : Term) (c : Clause) (h : inputOk vm root c = true)
    (I : Interp) (hI : I.WF) (hr : evalB I root = true) : Clause.eval (inducedAsg vm I) c = true := by
  cases hc : Clause.eval (inducedAsg vm I) c with
  | true => rfl
  | false =>
    exfalso
    unfold inputOk at h
    split at h
    · simp at h
    · rename_i p hp
      have hag := falsify_agrees vm I hI c p hp hc
      simp only [Bool.or_eq_true, beq_iff_eq, List.any_eq_true] at h
      have clash : ∀ e ∈ p, eval I e.1 ≠ .b (!e.2) := fun e he h1 =>
        (Bool.not_eq_self _).mp (Val.b.inj (h1.symm.trans (hag e he)))
      rcases h with (h | ⟨e, he, h⟩) | ⟨e, he, h⟩
      · have := eval3_sound I p hag root false h
        simp [evalB, this] at hr
      · exact clash e he (struct3_sound I p hag e.1 _ h)
      · exact clash e he (get_sound hag h)

end Osmt
