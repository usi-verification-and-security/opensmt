import Osmt.Num
import Mathlib.Data.Rat.Defs
import Mathlib.Data.Rat.Lemmas
/-! Exactness of decimal literal conversion (C16). -/
namespace Osmt.Num

theorem natOfDigits_append_one (ds : List Char) (c : Char) :
    natOfDigits (ds ++ [c]) = natOfDigits ds * 10 + digitVal c := by
  rw [natOfDigits, List.foldl_append]; rfl

theorem natOfDigits_append_zeros (ds : List Char) (k : Nat) :
    natOfDigits (ds ++ List.replicate k '0') = natOfDigits ds * 10 ^ k := by
  induction k with
  | zero => rw [List.replicate_zero, List.append_nil, Nat.pow_zero, Nat.mul_one]
  | succ k ih =>
    rw [List.replicate_succ', ← List.append_assoc, natOfDigits_append_one, ih, Nat.pow_succ, Nat.mul_assoc]; rfl

theorem dropTrailingZeros_spec (fp : List Char) :
    ∃ k, fp = dropTrailingZeros fp ++ List.replicate k '0' := by
  refine ⟨(fp.reverse.takeWhile (· = '0')).length, ?_⟩
  rw [dropTrailingZeros, ← List.reverse_replicate, ← List.reverse_append, List.reverse_eq_iff.symm,
    ← List.eq_replicate_iff.mpr ⟨rfl, fun b hb => of_decide_eq_true (List.all_eq_true.mp List.all_takeWhile b hb)⟩,
    List.takeWhile_append_dropWhile]

/-- **decimal literals are read exactly**: for every sign, integer part and fraction part (any number of
leading and trailing zeros, any length) `stringToRational` returns the value the literal denotes -/
theorem s2rDec_exact (s ip fp : List Char) (h : decShape (dropSign s) = some (ip, fp)) :
    s2rDec s = some (decimalValue (isNeg s) ip fp) := by
  unfold s2rDec decimalValue
  rw [h]
  dsimp only
  obtain ⟨k, hk⟩ := dropTrailingZeros_spec fp
  generalize dropTrailingZeros fp = t at hk ⊢
  rw [hk, ← List.append_assoc, natOfDigits_append_zeros, List.length_append, List.length_replicate, Nat.pow_add,
    Int.natCast_mul, Rat.mkRat_mul_right (Nat.pow_pos (by decide)).ne']

/-- every string of the lexer's decimal language is accepted by the conversion -/
theorem lexDec_accepted (s : List Char) (h : lexDec s = true) : (s2rDec s).isSome = true := by
  unfold lexDec at h
  unfold s2rDec
  cases hs : decShape (dropSign s) with
  | none => rw [hs] at h; cases h
  | some p => rfl

end Osmt.Num
