import Osmt.ItpPath
import OsmtProofs.Itp
/-!
Path property of labelled interpolation systems: for one refutation labelled for two consecutive cuts whose labels fit together
(`pairOK`), the interpolant of the first cut together with the middle group implies the interpolant of the second cut.
-/
namespace Osmt.Itp

theorem proj_clause : ∀ n : Node2, n.proj1.clause = n.proj2.clause
  | .leaf c o ls => by cases o <;> rfl
  | .leafT c ls i1 i2 => rfl
  | .res n1 n2 p => by simp only [Node2.proj1, Node2.proj2, Node.clause, proj_clause n1, proj_clause n2]

/-- the literals a node may still "owe": those whose two labels are not both `a` and not both `b` -/
def inX (x y : Lbl) : Bool := !(x.onlyA && y.onlyA) && !(x.onlyB && y.onlyB)

theorem Lbl.join_comm (x y : Lbl) : x.join y = y.join x := by simp only [Lbl.join, Bool.or_comm]

theorem Lbl.absent_join (x y : Lbl) : (x.join y).absent = (x.absent && y.absent) := by
  simp only [Lbl.absent, Lbl.join, Bool.not_or]; ac_rfl

/-- fitting labels: from the first cut to the second the a-bit is only gained, the b-bit only lost, and presence is kept -/
theorem pairOK_iff (x y : Lbl) :
    pairOK x y = true ↔ (x.a = true → y.a = true) ∧ (y.b = true → x.b = true) ∧ x.absent = y.absent := by
  obtain ⟨a, b⟩ := x; obtain ⟨c, d⟩ := y
  revert a b c d; decide

theorem pairOK_join {x1 y1 x2 y2 : Lbl} (h1 : pairOK x1 y1 = true) (h2 : pairOK x2 y2 = true) :
    pairOK (x1.join x2) (y1.join y2) = true := by
  rw [pairOK_iff] at h1 h2 ⊢
  rw [Lbl.absent_join, Lbl.absent_join, h1.2.2, h2.2.2]
  simp only [Lbl.join, Bool.or_eq_true]
  exact ⟨Or.imp h1.1 h2.1, Or.imp h1.2.1 h2.2.1, trivial⟩

/-- among fitting present labels the owed ones are those with the b-bit in the first cut and the a-bit in the second -/
theorem inX_eq {x y : Lbl} (h : pairOK x y = true) (hn : (x.a || x.b) = true) : inX x y = (x.b && y.a) := by
  obtain ⟨a, b⟩ := x; obtain ⟨c, d⟩ := y
  revert a b c d; decide

/-- labels that are not owed are the same label, a or b, in both cuts -/
theorem eq_of_inX_false {x y : Lbl} (h : inX x y = false) : x = y ∧ (x.onlyA = true ∨ x.onlyB = true) := by
  obtain ⟨a, b⟩ := x; obtain ⟨c, d⟩ := y
  revert a b c d; decide

theorem inX_join_left {x1 y1 x2 y2 : Lbl} (h1 : pairOK x1 y1 = true) (h2 : pairOK x2 y2 = true)
    (hn : (x1.a || x1.b) = true) (hx : inX x1 y1 = true) : inX (x1.join x2) (y1.join y2) = true := by
  rw [inX_eq h1 hn, Bool.and_eq_true] at hx
  rw [inX_eq (pairOK_join h1 h2) (Lbl.join_present (.inl hn))]
  simp [Lbl.join, hx]

theorem inX_join_right {x1 y1 x2 y2 : Lbl} (h1 : pairOK x1 y1 = true) (h2 : pairOK x2 y2 = true)
    (hn : (x2.a || x2.b) = true) (hx : inX x2 y2 = true) : inX (x1.join x2) (y1.join y2) = true := by
  rw [Lbl.join_comm x1, Lbl.join_comm y1]; exact inX_join_left h2 h1 hn hx

theorem labs_pairOK (ls : Labs) (h : ls.all (fun e => pairOK e.2.1 e.2.2) = true) (v : Var) :
    pairOK (labOf1 ls v) (labOf2 ls v) = true := by
  unfold labOf1 labOf2
  cases hf : ls.find? (fun e => e.1 == v) with
  | none => rfl
  | some e => exact List.all_eq_true.mp h e (List.mem_of_find?_eq_some hf)

theorem node_pairOK : ∀ n : Node2, n.labelsOK = true → ∀ v, pairOK (n.proj1.lab v) (n.proj2.lab v) = true
  | .leaf _ o ls, h, v => by cases o <;> exact labs_pairOK ls (Bool.and_eq_true_iff.mp h).1 v
  | .leafT _ ls _ _, h, v => labs_pairOK ls (Bool.and_eq_true_iff.mp h).1 v
  | .res n1 n2 _, h, v =>
    pairOK_join (node_pairOK n1 (Bool.and_eq_true_iff.mp h).1 v) (node_pairOK n2 (Bool.and_eq_true_iff.mp h).2 v)

/-- the structural check alone is well-formedness with respect to sides from which no leaf has to follow -/
theorem wf_false_of_structOk (n : Node) (hs : n.structOk = true) : n.WF (fun _ => False) (fun _ => False) :=
  wf_of_structOk _ _ n hs (leavesOk_false n)
where leavesOk_false : ∀ n : Node, n.leavesOk (fun _ => False) (fun _ => False)
  | .leafA _ _ => fun _ h => h.elim
  | .leafB _ _ => fun _ h => h.elim
  | .leafT _ _ _ => ⟨fun _ h => h.elim, fun _ h => h.elim⟩
  | .res n1 n2 _ => ⟨leavesOk_false n1, leavesOk_false n2⟩

/-- the invariant of the path property: the literals still owed are those that `inX` keeps -/
def PInv (G : Asg → Prop) (n : Node2) : Prop :=
  ∀ σ, G σ → n.proj1.itp.eval σ = true →
    cEval σ (n.proj1.clause.filter fun l => inX (n.proj1.lab l.var) (n.proj2.lab l.var)) = false → n.proj2.itp.eval σ = true

theorem leaf_pinv (G c o ls) (hm : (Node2.leaf c o ls).middleOk G) : PInv G (.leaf c o ls) := by
  intro σ hG h1 hx
  have hx : cEval σ (c.filter fun l => inX (labOf1 ls l.var) (labOf2 ls l.var)) = false := by cases o <;> exact hx
  -- a true literal is not owed, so it has the same label, a or b, in both cuts
  have e : ∀ l ∈ c, l.eval σ = true →
      labOf1 ls l.var = labOf2 ls l.var ∧ ((labOf1 ls l.var).onlyA = true ∨ (labOf1 ls l.var).onlyB = true) :=
    fun l hl ht => eq_of_inX_false (Bool.eq_false_iff.mpr fun hi => by
      rw [(cEval_false_iff σ _).mp hx l (List.mem_filter.mpr ⟨hl, hi⟩)] at ht; exact absurd ht (by simp))
  have eA : cEval σ (onlyA c (labOf1 ls)) = cEval σ (onlyA c (labOf2 ls)) :=
    filter_congr_true σ fun l hl ht => by rw [(e l hl ht).1]
  have eB : cEval σ (onlyB c (labOf1 ls)) = cEval σ (onlyB c (labOf2 ls)) :=
    filter_congr_true σ fun l hl ht => by rw [(e l hl ht).1]
  cases o <;> simp only [Node2.proj1, Node2.proj2, Node.itp, bigOr_eval, bigAndNeg_eval] at h1 ⊢
  · rw [← eB, h1]
  · -- a true literal of the clause is not a in the first cut, since that cut's interpolant holds: it is b
    rw [← eB]
    exact filter_true_of_cover σ (fun l hl ht => (e l hl ht).2) (hm σ hG) ((Bool.not_eq_true' _).mp h1)
  · rw [← eA, h1]

/-- with the b-bit in the first cut and the a-bit in the second, the step goes through the choice by the pivot -/
theorem resOp_step {a b a' b' u v u' v' s : Bool} (hb : b = true) (ha : a' = true)
    (h1 : s = false → u = true → u' = true) (h2 : s = true → v = true → v' = true)
    (e : resOp a b u v s = true) : resOp a' b' u' v' s = true := by
  have := choice_of_resOp _ _ _ _ _ hb e
  refine resOp_of_choice true _ _ _ _ _ ha ?_
  cases s
  · exact h1 rfl this
  · exact h2 rfl this

theorem res_pinv (G) (n1 n2 : Node2) (p : Var) (hok1 : ∀ v, pairOK (n1.proj1.lab v) (n1.proj2.lab v) = true)
    (hok2 : ∀ v, pairOK (n2.proj1.lab v) (n2.proj2.lab v) = true)
    (hw : (Node2.res n1 n2 p).proj1.WF (fun _ => False) (fun _ => False))
    (i1 : PInv G n1) (i2 : PInv G n2) : PInv G (.res n1 n2 p) := by
  obtain ⟨hw1, hw2, hpos, hneg, ⟨l1, hl1, hv1⟩, ⟨l2, hl2, hv2⟩⟩ := hw
  have hp1 := hv1 ▸ labelled _ _ _ hw1 l1 hl1
  have hp2 := hv2 ▸ labelled _ _ _ hw2 l2 hl2
  intro σ hG e hx
  -- the step for a premise, when its pivot literal is false or not owed
  have h1 := fun hp e => i1 σ hG e (premise_restr_false σ
    (k := fun v => inX ((Node2.res n1 n2 p).proj1.lab v) ((Node2.res n1 n2 p).proj2.lab v))
    (k' := fun v => inX (n1.proj1.lab v) (n1.proj2.lab v)) hpos
    (fun l hl hv hi => ⟨mem_res_iff.mpr ⟨.inl hl, hv⟩, inX_join_left (hok1 _) (hok2 _) (labelled _ _ _ hw1 l hl) hi⟩) hx hp)
  have h2 := fun hp e => i2 σ hG e (premise_restr_false σ
    (k := fun v => inX ((Node2.res n1 n2 p).proj1.lab v) ((Node2.res n1 n2 p).proj2.lab v))
    (k' := fun v => inX (n2.proj1.lab v) (n2.proj2.lab v)) hneg
    (fun l hl hv hi => ⟨mem_res_iff.mpr ⟨.inr hl, hv⟩, inX_join_right (hok1 _) (hok2 _) (labelled _ _ _ hw2 l hl) hi⟩) hx hp)
  simp only [Node2.proj1, Node2.proj2, itp_res_eval, Node.lab] at e ⊢
  by_cases hi1 : inX (n1.proj1.lab p) (n1.proj2.lab p) = true
  · rw [inX_eq (hok1 p) hp1, Bool.and_eq_true] at hi1
    exact resOp_step (by simp [Lbl.join, hi1.1]) (by simp [Lbl.join, hi1.2]) (h1 ∘ .inl) (h2 ∘ .inl) e
  by_cases hi2 : inX (n2.proj1.lab p) (n2.proj2.lab p) = true
  · rw [inX_eq (hok2 p) hp2, Bool.and_eq_true] at hi2
    exact resOp_step (by simp [Lbl.join, hi2.1]) (by simp [Lbl.join, hi2.2]) (h1 ∘ .inl) (h2 ∘ .inl) e
  -- owed in neither premise: the same label in both cuts, so the same operation, on interpolants that step unconditionally
  rw [Bool.not_eq_true] at hi1 hi2
  rw [← (eq_of_inX_false hi1).1, ← (eq_of_inX_false hi2).1]
  exact resOp_mono _ _ _ (h1 (.inr hi1)) (h2 (.inr hi2)) e

theorem pinv_all (G) : ∀ n : Node2, n.labelsOK = true → n.proj1.WF (fun _ => False) (fun _ => False) → n.middleOk G → PInv G n
  | .leaf c o ls, _, _, hm => leaf_pinv G c o ls hm
  | .leafT _ _ _ _, _, _, hm => fun σ hG h1 hx => hm σ hG h1 hx  -- the filter in `middleOk` is `inX` written out
  | .res n1 n2 p, h, hw, hm =>
    have ⟨h1, h2⟩ := Bool.and_eq_true_iff.mp h
    res_pinv G n1 n2 p (node_pairOK n1 h1) (node_pairOK n2 h2) hw (pinv_all G n1 h1 hw.1 hm.1) (pinv_all G n2 h2 hw.2.1 hm.2)

/-- **Path property.**  For a refutation labelled for two consecutive cuts with fitting labels, whose middle-group leaves follow from
the middle group `G`: the first cut's interpolant together with `G` implies the second cut's interpolant. -/
theorem path_step (G : Asg → Prop) (n : Node2) (hl : n.labelsOK = true) (hs : n.proj1.structOk = true) (hm : n.middleOk G)
    (hempty : n.proj1.clause = []) : ∀ σ, G σ → n.proj1.itp.eval σ = true → n.proj2.itp.eval σ = true :=
  fun σ hG h1 => pinv_all G n hl (wf_false_of_structOk _ hs) hm σ hG h1 (by simp [hempty, cEval])

/-- the three proof-independent labelling systems of the solver give fitting labels for two consecutive cuts: moving the middle
group from the B side to the A side only adds A-membership and only removes B-membership -/
theorem system_pairOK (alg : Nat) (inA1 inB1 inA2 inB2 : Var → Bool) (v : Var)
    (hA : inA1 v = true → inA2 v = true) (hB : inB2 v = true → inB1 v = true)
    (hpres : (inA1 v || inB1 v) = (inA2 v || inB2 v)) :
    pairOK (systemLabel alg inA1 inB1 v) (systemLabel alg inA2 inB2 v) = true := by
  unfold systemLabel
  generalize (alg == 0) = z0; generalize (alg == 1) = z1
  generalize inA1 v = a1 at *; generalize inB1 v = b1 at *; generalize inA2 v = a2 at *; generalize inB2 v = b2 at *
  revert z0 z1 a1 b1 a2 b2; decide

end Osmt.Itp
