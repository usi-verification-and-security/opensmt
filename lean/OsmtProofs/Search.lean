import Osmt.Search
import OsmtProofs.Basics
/-!
Termination measure of the trail machine: every step increases `phi`; within a restart period `mu` increases and is below `3^n`.
-/
namespace Osmt.Search

theorem digit_pos (m : Mark) : 1 ≤ digit m := by cases m <;> decide
theorem digit_le (m : Mark) : digit m ≤ 2 := by cases m <;> decide

theorem mu_zero (t : Trail) : mu 0 t = 0 := by cases t <;> rfl

theorem mu_lt : ∀ (n : Nat) (t : Trail), mu n t < 3 ^ n
  | n, [] => by simpa [mu] using Nat.pow_pos (n := n) (show 0 < 3 by decide)
  | 0, _ :: _ => by simp [mu]
  | n + 1, e :: t => by
    have := mu_lt n t
    have := Nat.mul_le_mul_right (3 ^ n) (digit_le e.2)
    simp only [mu, Nat.pow_succ]
    omega

theorem mu_append : ∀ (n : Nat) (p q : Trail), mu n (p ++ q) = mu n p + mu (n - p.length) q
  | 0, p, q => by simp [mu_zero]
  | n + 1, [], q => by simp [mu]
  | n + 1, e :: p, q => by
    simp only [List.cons_append, mu, mu_append n p q, List.length_cons, Nat.add_sub_add_right, Nat.add_assoc]

/-- Two trails with a common prefix compare by their next entries: the first has none, or a smaller digit. -/
theorem mu_cut_lt (n : Nat) (p d : Trail) (e' : Nat × Mark) (hp : p.length < n)
    (h : ∀ e ∈ d.head?, digit e.2 < digit e'.2) : mu n (p ++ d) < mu n (p ++ [e']) := by
  obtain ⟨m, hm⟩ : ∃ m, n - p.length = m + 1 := ⟨n - p.length - 1, by omega⟩
  rw [mu_append, mu_append, hm]
  cases d with
  | nil =>
    have := Nat.mul_le_mul_right (3 ^ m) (digit_pos e'.2)
    have := Nat.pow_pos (n := m) (show 0 < 3 by decide)
    simp only [mu]; omega
  | cons e r =>
    have := Nat.succ_mul _ _ ▸ Nat.mul_le_mul_right (3 ^ m) (h e rfl)
    have := mu_lt m r
    simp only [mu]; omega

theorem mu_backjump_lt : ∀ (n : Nat) (p rest : Trail) (x v : Nat), p.length + 1 + rest.length ≤ n →
    mu n (p ++ (x, Mark.dec) :: rest) < mu n (p ++ [(v, Mark.prop)]) :=
  fun n p _ _ _ h => mu_cut_lt n p _ _ (by omega) (by rintro _ ⟨⟩; exact Nat.lt_succ_self 1)

/-- the part of `Inv` that speaks of the trail alone -/
def Wf (n : Nat) (t : Trail) : Prop := (vars t).Nodup ∧ ∀ v ∈ vars t, v < n

theorem Wf.length_le {n : Nat} {t : Trail} (h : Wf n t) : t.length ≤ n := by
  simpa [vars] using h.1.length_le_of_subset (l₂ := List.range n) (fun v hv => List.mem_range.2 (h.2 v hv))

theorem Inv.wf_prefix {n : Nat} {s : St} {p d : Trail} (hi : Inv n s) (ht : s.t = p ++ d) : Wf n p := by
  have hs : (vars p).Sublist (vars s.t) := by simp [vars, ht]
  exact ⟨hi.1.sublist hs, fun v hv => hi.2.1 v (hs.subset hv)⟩

theorem Wf.snoc {n : Nat} {t : Trail} (h : Wf n t) {v : Nat} (m : Mark) (hv : v < n ∧ v ∉ vars t) :
    Wf n (t ++ [(v, m)]) := by
  have e : vars (t ++ [(v, m)]) = vars t ++ [v] := by simp [vars]
  rw [Wf, e]
  exact ⟨nodup_concat h.1 hv.2, List.forall_mem_append.2 ⟨h.2, List.forall_mem_singleton.2 hv.1⟩⟩

/-- What every step but a restart does: it cuts the trail (`d` goes) and appends a fresh variable whose digit exceeds that
of the first entry cut, if any; the conflict count goes up by at most one. -/
inductive Ext (n : Nat) (s : St) : St → Prop
  | mk (p d : Trail) (v : Nat) (m : Mark) (c : Nat) : s.t = p ++ d → v < n ∧ v ∉ vars p →
      (∀ e ∈ d.head?, digit e.2 < digit m) → c ≤ s.c + 1 → Ext n s ⟨p ++ [(v, m)], c, s.i⟩

theorem Ext.i {n : Nat} {s s' : St} (h : Ext n s s') : s'.i = s.i := by cases h; rfl

theorem Ext.inv_phi {n : Nat} {s s' : St} (hi : Inv n s) (h : Ext n s s') : Inv n s' ∧ phi n s < phi n s' := by
  obtain ⟨p, d, v, m, c, ht, hv, hd, hc⟩ := h
  have hcm := hi.2.2
  have hw : Wf n (p ++ [(v, m)]) := (hi.wf_prefix ht).snoc m hv
  have hm : mu n s.t < mu n (p ++ [(v, m)]) := by
    have := hw.length_le
    rw [ht]; exact mu_cut_lt n p d (v, m) (by simp at this; omega) hd
  exact ⟨⟨hw.1, hw.2, by show c ≤ mu n (p ++ [(v, m)]); omega⟩, Nat.add_lt_add_left hm _⟩

theorem step?_cases {n : Nat} {lim : Nat → Nat} {s s' : St} {x : Step} (h : step? n lim s x = some s') :
    Ext n s s' ∨ ∃ k, x = .restart k ∧ lim s.i ≤ s.c ∧ s' = ⟨s.t.take k, 0, s.i + 1⟩ := by
  have jump {k x : Nat} (hy : s.t[k]? = some (x, Mark.dec)) :
      ∀ e ∈ (s.t.drop k).head?, digit e.2 < digit Mark.prop := by
    rw [List.head?_drop, hy]; rintro _ ⟨⟩; exact Nat.lt_succ_self 1
  cases x with
  | decide v | propagate v =>
    simp only [step?, Option.ite_none_right_eq_some, Option.some.injEq] at h
    obtain ⟨hv, rfl⟩ := h
    exact .inl (.mk s.t [] v _ s.c (List.append_nil _).symm hv (by simp) (Nat.le_succ _))
  | backjump k v | tjump k v =>
    rcases hy : s.t[k]? with _ | ⟨x, _ | _⟩ <;>
      simp only [step?, hy, Option.ite_none_right_eq_some, Option.some.injEq, reduceCtorEq] at h
    obtain ⟨hv, rfl⟩ := h
    exact .inl (.mk _ _ v .prop _ (List.take_append_drop k _).symm hv (jump hy) (by simp))
  | restart k =>
    simp only [step?, Option.ite_none_right_eq_some, Option.some.injEq] at h
    exact .inr ⟨k, rfl, h.1.1, h.2.symm⟩

theorem step_inv_phi (n : Nat) (lim : Nat → Nat) (s s' : St) (x : Step) (hi : Inv n s) (h : step? n lim s x = some s') :
    Inv n s' ∧ phi n s < phi n s' := by
  rcases step?_cases h with he | ⟨k, -, -, rfl⟩
  · exact he.inv_phi hi
  · have hw : Wf n (s.t.take k) := hi.wf_prefix (List.take_append_drop k _).symm
    refine ⟨⟨hw.1, hw.2, Nat.zero_le _⟩, ?_⟩
    have := mu_lt n s.t
    show s.i * 3 ^ n + mu n s.t < (s.i + 1) * 3 ^ n + mu n (s.t.take k)
    rw [Nat.succ_mul]; omega

/-- Along a run the invariant holds and `phi` grows by at least the number of steps; `P` is whatever else the steps of this
run preserve (a bound on the period index, say). -/
theorem run_inv_phi (n : Nat) (lim : Nat → Nat) (P : St → Prop) : ∀ (xs : List Step) (s s' : St),
    (∀ x ∈ xs, ∀ s s', Inv n s → P s → step? n lim s x = some s' → P s') → Inv n s → P s → run? n lim s xs = some s' →
    Inv n s' ∧ P s' ∧ phi n s + xs.length ≤ phi n s'
  | [], s, s', _, hi, hp, h => by cases h; exact ⟨hi, hp, Nat.le_refl _⟩
  | x :: xs, s, s', hP, hi, hp, h => by
    simp only [run?] at h
    split at h
    · rename_i s1 h1
      obtain ⟨hi1, hlt⟩ := step_inv_phi n lim s s1 x hi h1
      obtain ⟨hi', hp', hle⟩ := run_inv_phi n lim P xs s1 s' (fun y hy => hP y (List.mem_cons_of_mem _ hy)) hi1
        (hP x List.mem_cons_self s s1 hi hp h1) h
      exact ⟨hi', hp', by simp only [List.length_cons]; omega⟩
    · cases h

theorem inv_init (n : Nat) : Inv n init := by simp [Inv, init, vars, mu]

/-- **Termination of the trail machine.**  If some period `i0` has a conflict limit of at least `3^n` (every unbounded restart
policy has one), no run leaves that period, and every run from the empty trail has fewer than `(i0 + 1) * 3^n` steps. -/
theorem run_length_bounded (n : Nat) (lim : Nat → Nat) (i0 : Nat) (h0 : 3 ^ n ≤ lim i0)
    (xs : List Step) (s' : St) (h : run? n lim init xs = some s') : xs.length < (i0 + 1) * 3 ^ n := by
  -- a restart in period `i` needs `lim i ≤ c ≤ mu < 3^n`, so there is none in period `i0`
  obtain ⟨-, hidx, hp⟩ := run_inv_phi n lim (·.i ≤ i0) xs init s' (by
    intro x _ s s1 hi hle h1
    rcases step?_cases h1 with he | ⟨k, -, hl, rfl⟩
    · exact he.i ▸ hle
    · have := mu_lt n s.t
      have := hi.2.2
      have : s.i ≠ i0 := fun e => by rw [e] at hl; omega
      show s.i + 1 ≤ i0; omega) (inv_init n) (Nat.zero_le _) h
  have := mu_lt n s'.t
  have := Nat.mul_le_mul_right (3 ^ n) hidx
  simp only [phi, init, mu, Nat.zero_mul, Nat.zero_add] at hp
  rw [Nat.succ_mul]; omega

/-- **One restart period is finite**, whatever the restart policy: a run without restart has fewer than `3^n` steps. -/
theorem period_length_bounded (n : Nat) (lim : Nat → Nat) (xs : List Step) (s s' : St) (hi : Inv n s)
    (hnr : ∀ x ∈ xs, isRestart x = false) (h : run? n lim s xs = some s') : xs.length < 3 ^ n := by
  obtain ⟨-, he, hp⟩ := run_inv_phi n lim (·.i = s.i) xs s s' (by
    intro x hx s1 s2 _ he h1
    rcases step?_cases h1 with h2 | ⟨k, rfl, -, -⟩
    · exact h2.i.trans he
    · cases hnr _ hx) hi rfl h
  have := mu_lt n s'.t
  simp only [phi, he] at hp
  omega

end Osmt.Search
