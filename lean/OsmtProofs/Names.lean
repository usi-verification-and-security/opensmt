import Osmt.Names
import OsmtProofs.Basics
/-! `TermNames`: consistency of the containers in every reachable state and scope discipline (C21). -/
namespace Osmt.Names

/-- names in the scoped vector are pairwise distinct; the name map holds exactly the pairs of the vector -/
def Inv (s : St) : Prop :=
  (s.elems.map (·.1)).Nodup ∧ (s.n2t.map (·.1)).Nodup ∧ (∀ p, p ∈ s.n2t ↔ p ∈ s.elems)

theorem inv_init : Inv {} := by simp [Inv]

theorem lookup_none_iff (s : St) (n : Nat) : lookup s n = none ↔ n ∉ s.n2t.map (·.1) := by
  simp only [lookup, Option.map_eq_none_iff, List.find?_eq_none, List.mem_map, decide_eq_true_eq]
  exact ⟨fun h ⟨p, hp, e⟩ => h p hp e, fun h p hp e => h ⟨p, hp, e⟩⟩

theorem lookup_some_iff (s : St) (hn : (s.n2t.map (·.1)).Nodup) (n t : Nat) :
    lookup s n = some t ↔ (n, t) ∈ s.n2t := by
  unfold lookup
  constructor
  · intro h
    obtain ⟨p, hp, rfl⟩ := Option.map_eq_some_iff.1 h
    have := List.find?_some hp
    exact (show p.1 = n by simpa using this) ▸ List.mem_of_find?_eq_some hp
  · intro hm
    cases hf : s.n2t.find? (·.1 = n) with
    | none => exact absurd (decide_eq_true rfl) (List.find?_eq_none.1 hf (n, t) hm)
    | some q =>
      rw [inj_of_nodup_map hn (List.mem_of_find?_eq_some hf) hm (by simpa using List.find?_some hf)]
      rfl

theorem tryInsert_inv (s : St) (n t : Nat) (h : Inv s) : Inv (tryInsert s n t).1 := by
  obtain ⟨h1, h2, h3⟩ := h
  unfold tryInsert
  split
  · exact ⟨h1, h2, h3⟩
  · rename_i hl
    have hn2 : n ∉ s.n2t.map (·.1) := (lookup_none_iff s n).1 (by simpa using hl)
    have hne : n ∉ s.elems.map (·.1) := by simpa only [List.mem_map, h3] using hn2
    refine ⟨?_, List.nodup_cons.2 ⟨hn2, h2⟩, fun p => ?_⟩
    · rw [List.map_append]; exact nodup_concat h1 hne
    · simp [h3 p, or_comm]

theorem eraseName_n2t (s : St) (n : Nat) : (eraseName s n).n2t = s.n2t.filter (·.1 ≠ n) := by
  unfold eraseName
  split
  · rename_i h
    exact (List.filter_eq_self.2 fun p hp => by
      simpa using fun e => (lookup_none_iff s n).1 h (List.mem_map.2 ⟨p, hp, e⟩)).symm
  · rfl

theorem eraseName_frame (s : St) (n : Nat) :
    (eraseName s n).elems = s.elems ∧ (eraseName s n).limits = s.limits ∧ (eraseName s n).global = s.global := by
  unfold eraseName; split <;> exact ⟨rfl, rfl, rfl⟩

theorem eraseAll_frame : ∀ (ps : List (Nat × Nat)) (s : St),
    (eraseAll s ps).elems = s.elems ∧ (eraseAll s ps).limits = s.limits ∧ (eraseAll s ps).global = s.global
  | [], _ => ⟨rfl, rfl, rfl⟩
  | p :: r, s =>
    have ⟨i1, i2, i3⟩ := eraseAll_frame r (eraseName s p.1)
    have ⟨e1, e2, e3⟩ := eraseName_frame s p.1
    ⟨i1.trans e1, i2.trans e2, i3.trans e3⟩

theorem eraseAll_n2t : ∀ (ps : List (Nat × Nat)) (s : St),
    (eraseAll s ps).n2t = s.n2t.filter (fun p => p.1 ∉ ps.map (·.1))
  | [], s => (List.filter_eq_self.2 fun _ _ => by simp).symm
  | p :: r, s => by
    rw [eraseAll, eraseAll_n2t r, eraseName_n2t, List.filter_filter]
    exact List.filter_congr fun q _ => by
      simp only [List.map_cons, List.mem_cons, not_or, Bool.decide_and, Bool.and_comm]

theorem mem_take_iff_of_nodup (l : List (Nat × Nat)) (k : Nat) (hn : (l.map (·.1)).Nodup) (p : Nat × Nat) :
    p ∈ l.take k ↔ (p ∈ l ∧ p.1 ∉ (l.drop k).map (·.1)) := by
  rw [← List.take_append_drop k l, List.map_append, List.nodup_append] at hn
  constructor
  · exact fun h => ⟨List.mem_of_mem_take h, fun hd => hn.2.2 _ (List.mem_map_of_mem h) _ hd rfl⟩
  · rintro ⟨h, hd⟩
    rcases List.mem_append.1 ((List.take_append_drop k l).symm ▸ h) with h | h
    · exact h
    · exact absurd (List.mem_map_of_mem h) hd

theorem popScope_limits (s : St) : (popScope s).limits = s.limits.dropLast := by
  unfold popScope
  split
  · rfl
  · split
    · rename_i h; rw [List.getLast?_eq_none_iff.1 h]; rfl
    · rfl

theorem popScope_global (s : St) : (popScope s).global = s.global := by
  unfold popScope
  split
  · rfl
  · split
    · rfl
    · exact (eraseAll_frame _ s).2.2

theorem popScope_elems (s : St) (k : Nat) (hg : s.global = false) (hl : s.limits.getLast? = some k) :
    (popScope s).elems = s.elems.take k := by
  simp only [popScope, hg, hl, Bool.false_eq_true, if_false]

theorem popScope_inv (s : St) (h : Inv s) : Inv (popScope s) := by
  obtain ⟨h1, h2, h3⟩ := h
  unfold popScope
  split
  · exact ⟨h1, h2, h3⟩
  · split
    · exact ⟨h1, h2, h3⟩
    · rename_i lim _
      have i1 := eraseAll_n2t (s.elems.drop lim).reverse s
      refine ⟨h1.sublist ((List.take_sublist _ _).map _), ?_, fun p => ?_⟩
      · exact i1 ▸ h2.sublist (List.filter_sublist.map _)
      · show p ∈ (eraseAll s _).n2t ↔ p ∈ s.elems.take lim
        rw [i1, List.mem_filter, h3 p, mem_take_iff_of_nodup s.elems lim h1 p]
        simp only [List.map_reverse, List.mem_reverse, decide_eq_true_eq]

theorem step_inv (s : St) (op : Op) (h : Inv s) : Inv (step s op) := by
  cases op with
  | insert n t => exact tryInsert_inv s n t h
  | push => exact h
  | pop => exact popScope_inv s h
  | setGlobal b => exact h

/-- **container consistency in every reachable state**: distinct names, and the name map is exactly the
scoped vector, for all operation sequences (including switches of the global-declarations mode) -/
theorem run_inv (ops : List Op) : Inv (run ops) :=
  List.foldlRecOn ops step inv_init fun s h op _ => step_inv s op h

/-- balanced sequences of scope operations (relative depth `d`): never pop below the starting depth, end at it;
no switch of the global-declarations mode inside -/
def bal : Nat → List Op → Bool
  | d, [] => d == 0
  | d, .push :: r => bal (d + 1) r
  | d, .pop :: r => d > 0 && bal (d - 1) r
  | d, .insert _ _ :: r => bal d r
  | _, .setGlobal _ :: _ => false

theorem tryInsert_frame (s : St) (n t : Nat) :
    s.elems <+: (tryInsert s n t).1.elems ∧ (tryInsert s n t).1.limits = s.limits ∧
      (tryInsert s n t).1.global = s.global := by
  unfold tryInsert
  split
  · exact ⟨List.prefix_rfl, rfl, rfl⟩
  · exact ⟨List.prefix_append _ _, rfl, rfl⟩

/-- scope discipline: while the scopes opened on top of the limits `L` are balanced (`K`: their limits, none below
`E0`), the elements `E0` and the limits `L` are untouched -/
theorem balanced_preserves_base (E0 : List (Nat × Nat)) (L : List Nat) (ops : List Op) :
    ∀ (s : St) (K : List Nat),
      s.global = false → E0 <+: s.elems → s.limits = L ++ K → (∀ k ∈ K, E0.length ≤ k) → bal K.length ops = true →
      E0 <+: (ops.foldl step s).elems ∧ (ops.foldl step s).limits = L ∧ (ops.foldl step s).global = false := by
  induction ops with
  | nil =>
    intro s K hg he hl _ hb
    simp only [bal, beq_iff_eq, List.length_eq_zero_iff] at hb
    exact ⟨he, by simpa [hb] using hl, hg⟩
  | cons op r ih =>
    intro s K hg he hl hk hb
    cases op with
    | insert n t =>
      obtain ⟨h1, h2, h3⟩ := tryInsert_frame s n t
      exact ih (tryInsert s n t).1 K (h3.trans hg) (he.trans h1) (h2.trans hl) hk hb
    | push =>
      refine ih (pushScope s) (K ++ [s.elems.length]) hg he ?_ ?_ (by simpa [bal] using hb)
      · show s.limits ++ [s.elems.length] = _
        rw [hl, List.append_assoc]
      · exact List.forall_mem_append.2 ⟨hk, List.forall_mem_singleton.2 he.length_le⟩
    | pop =>
      simp only [bal, Bool.and_eq_true, decide_eq_true_eq] at hb
      have hKne : K ≠ [] := fun e => by simp [e] at hb
      obtain ⟨k, hkl⟩ := Option.isSome_iff_exists.1 (List.getLast?_isSome.2 hKne)
      refine ih (popScope s) K.dropLast ((popScope_global s).trans hg) ?_ ?_ ?_ (by simpa using hb.2)
      · rw [popScope_elems s k hg (by rw [hl, List.getLast?_append, hkl]; rfl)]
        exact List.prefix_take_iff.2 ⟨he, hk k (List.mem_of_getLast? hkl)⟩
      · rw [popScope_limits, hl, List.dropLast_append_of_ne_nil hKne]
      · exact fun k' hk' => hk k' ((List.dropLast_sublist K).subset hk')
    | setGlobal b => simp [bal] at hb

end Osmt.Names
