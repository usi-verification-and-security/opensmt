import Osmt.Rng
import Mathlib.Data.Nat.GCD.Basic
namespace Osmt.Rng

theorem coprime_a_m : Nat.Coprime a m := by decide +kernel

theorem next_lt (s : Nat) : next s < m := Nat.mod_lt _ (by decide)

/-- the state never leaves [1, m-1]: it is never 0 (which would freeze the generator) -/
theorem next_range (s : Nat) (h0 : 0 < s) (hm : s < m) : 0 < next s ∧ next s < m := by
  refine ⟨Nat.pos_of_ne_zero fun h => ?_, next_lt s⟩
  have hd : m ∣ s := coprime_a_m.symm.dvd_of_dvd_mul_right (Nat.dvd_of_mod_eq_zero h)
  exact Nat.not_le_of_lt hm (Nat.le_of_dvd h0 hd)

theorem irand_lt (s size : Nat) (hs : 0 < size) : irand s size < size := by
  rw [irand, Nat.div_lt_iff_lt_mul (by decide : 0 < m), Nat.mul_comm]
  exact Nat.mul_lt_mul_of_pos_left (next_lt s) hs

theorem states_range (n s : Nat) (h0 : 0 < s) (hm : s < m) : ∀ x ∈ states s n, 0 < x ∧ x < m := by
  induction n generalizing s with
  | zero => intro x hx; simp [states] at hx
  | succ k ih =>
    intro x hx
    simp only [states, List.mem_cons] at hx
    have hr := next_range s h0 hm
    rcases hx with rfl | hx
    · exact hr
    · exact ih (next s) hr.1 hr.2 x hx

theorem states_length (n s : Nat) : (states s n).length = n := by
  induction n generalizing s with
  | zero => rfl
  | succ k ih => simp [states, ih]

end Osmt.Rng
