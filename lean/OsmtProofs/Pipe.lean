import Osmt.Pipe
import OsmtProofs.Basics
/-! Properties of the pipe-mode scanner for all byte strings and chunkings (C20). -/
namespace Osmt.Pipe
open Osmt

/-- **chunk independence**: however the input is split across reads, the scanner ends in the same state (same
emitted commands, same error flag, same pending bytes) -/
theorem chunk_independent (s : St) (chunks : List (List Char)) : runChunks s chunks = run s chunks.flatten :=
  List.foldl_flatten.symm

theorem two_chunkings_agree (s : St) (c1 c2 : List (List Char)) (h : c1.flatten = c2.flatten) :
    runChunks s c1 = runChunks s c2 := by
  rw [chunk_independent, chunk_independent, h]

/-- emitted commands are never retracted or altered by later input -/
theorem feed_frames_prefix (s : St) (c : Char) : s.frames <+: (feed s c).frames := by
  -- pushed to the leaves of `feed`, `frames` is `s.frames` everywhere but where a command closes
  simp only [feed, apply_ite St.frames, ite_self]
  repeat' refine ite_ind (s.frames <+: ·) (fun _ => ?_) (fun _ => ?_)
  all_goals first | exact List.prefix_rfl | exact List.prefix_append _ _

theorem run_frames_prefix (bytes : List Char) (s : St) : s.frames <+: (run s bytes).frames :=
  List.foldlRecOn (motive := fun t => s.frames <+: t.frames) bytes feed List.prefix_rfl
    fun t ht c _ => ht.trans (feed_frames_prefix t c)

/-- the depth stays non-negative until an unbalanced parenthesis is reported -/
theorem feed_par_nonneg (s : St) (c : Char) (h : s.unbalanced = true ∨ 0 ≤ s.par) :
    (feed s c).unbalanced = true ∨ 0 ≤ (feed s c).par := by
  rcases h with h | h
  · rw [feed, if_pos h]; exact .inl h
  -- pushed to the leaves of `feed`, the claim is the hypothesis everywhere but at the two parentheses
  simp only [feed, apply_ite (fun t : St => t.unbalanced = true ∨ 0 ≤ t.par), ite_self]
  repeat' refine ite_ind (fun p : Prop => p) (fun _ => ?_) (fun _ => ?_)
  all_goals first | exact .inr h | exact .inl trivial | exact .inr (by omega)

theorem run_par_nonneg (bytes : List Char) (s : St) (h : s.unbalanced = true ∨ 0 ≤ s.par) :
    (run s bytes).unbalanced = true ∨ 0 ≤ (run s bytes).par :=
  List.foldlRecOn bytes feed h fun t ht c _ => feed_par_nonneg t c ht

theorem run_append (s : St) (a b : List Char) : run s (a ++ b) = run (run s a) b :=
  List.foldl_append

end Osmt.Pipe
