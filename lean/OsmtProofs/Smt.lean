import Osmt.Smt
import OsmtProofs.Cdcl
import OsmtProofs.Skel
import OsmtProofs.LA
import OsmtProofs.EUF
/-! Soundness of the SMT-level machine: an accepted `unsat` answer refutes the roots. -/
namespace Osmt.Smt
open Osmt

theorem clauseTerms_eval (vm : VarMap) (I : Interp) : ∀ (c : Clause) (lits : List (Term × Bool)),
    clauseTerms vm c = some lits → (∃ l ∈ lits, evalB I l.1 = !l.2) → Clause.eval (inducedAsg vm I) c = true
  | [], lits, h, ⟨l, hl, _⟩ => by cases h; nomatch hl
  | l :: r, lits, h, ⟨x, hx, hxe⟩ => by
    rw [clauseTerms, List.mapM_cons] at h
    obtain ⟨tl, h1, h⟩ := Option.bind_eq_some_iff.mp h
    obtain ⟨t, ht, rfl⟩ := Option.map_eq_some_iff.mp h1
    obtain ⟨lr, hr, h⟩ := Option.bind_eq_some_iff.mp h
    cases h
    rw [Clause.eval, List.any_cons, Bool.or_eq_true]
    rcases List.mem_cons.mp hx with rfl | hx
    · left; rw [Lit.eval_induced ht, hxe]; cases l.neg <;> rfl
    · exact .inr (clauseTerms_eval vm I r lr hr ⟨x, hx, hxe⟩)

theorem theoryOk_sound (vm : VarMap) (c : Clause) (cert : ThCert) (h : theoryOk vm c cert = true)
    (I : Interp) (hI : I.WF) : Clause.eval (inducedAsg vm I) c = true := by
  cases cert with
  | la cert =>
    rw [theoryOk] at h
    split at h
    · exact clauseTerms_eval vm I c _ ‹_› (LA.laClauseCheck_sound _ cert h I hI)
    · cases h
  | euf steps goal =>
    rw [theoryOk] at h
    split at h
    · exact clauseTerms_eval vm I c _ ‹_› (EUF.eufClauseCheck_sound _ steps goal h I hI)
    · cases h
  | trusted => cases h

theorem isRun : IsRun step? run := ⟨fun _ => rfl, fun s e es => by rw [run]; cases step? s e <;> rfl⟩

/-- what the propositional machine sees of an event -/
def Event.core : Event → Cdcl.Event
  | .input _ c | .theory c _ => .axiom_ c
  | .learn c => .learn c
  | .answer a => .answer a

/-- the acceptance test this level adds -/
def Event.ok (s : State) : Event → Bool
  | .input root c => inputOk s.vm root c
  | .theory c cert => s.trustTheory || theoryOk s.vm c cert
  | .learn _ => true
  | .answer a => answerOk s a

def Event.roots : Event → List Term
  | .input root _ => [root]
  | _ => []

/-- the machine is the propositional one behind a guard, recording the roots -/
theorem step?_eq (s : State) (e : Event) : step? s e =
    if e.ok s then (Cdcl.step? s.core e.core).map fun k => { s with roots := e.roots ++ s.roots, core := k }
    else none := by
  cases e <;> rfl

theorem step?_some {s s' : State} {e : Event} (h : step? s e = some s') :
    e.ok s = true ∧ Cdcl.step? s.core e.core = some s'.core ∧ s'.roots = e.roots ++ s.roots ∧
      s'.vm = s.vm ∧ s'.trustTheory = s.trustTheory := by
  rw [step?_eq, Option.ite_none_right_eq_some, Option.map_eq_some_iff] at h
  obtain ⟨hok, k, hk, rfl⟩ := h
  exact ⟨hok, hk, rfl, rfl, rfl⟩

/-- every run is a run of the propositional machine on its state -/
theorem run_core {s s' : State} {evs : List Event} (h : run s evs = some s') :
    Cdcl.run s.core (evs.map Event.core) = some s'.core :=
  isRun.sim Cdcl.isRun State.core Event.core (fun h => (step?_some h).2.1) h

/-- what the test guarantees: the clauses an accepted event adds as axioms hold wherever its root does -/
theorem Event.ok_sound {s : State} {e : Event} (htr : s.trustTheory = false) (hok : e.ok s = true) (I : Interp)
    (hI : I.WF) (hr : ∀ r ∈ e.roots, evalB I r = true) : satisfies (inducedAsg s.vm I) e.core.adds.1 := by
  cases e with
  | input root c =>
    exact List.forall_mem_singleton.mpr (inputOk_sound s.vm root c hok I hI (hr root (List.mem_singleton_self _)))
  | theory c cert =>
    rw [Event.ok, htr, Bool.false_or] at hok
    exact List.forall_mem_singleton.mpr (theoryOk_sound s.vm c cert hok I hI)
  | learn c => exact fun _ hd => nomatch hd
  | answer a => exact fun _ hd => nomatch hd

/-- every axiom of the propositional machine holds under the assignment induced by any well-formed
interpretation that satisfies all roots (theory clauses not being taken on trust) -/
def Inv (vm : VarMap) (s : State) : Prop :=
  s.vm = vm ∧ s.trustTheory = false ∧
  ∀ I : Interp, I.WF → (∀ r ∈ s.roots, evalB I r = true) → satisfies (inducedAsg vm I) s.core.axioms

theorem step_inv {vm : VarMap} {s s' : State} {e : Event} (h : step? s e = some s') (hi : Inv vm s) : Inv vm s' := by
  obtain ⟨hok, hk, hroots, hvm, htr⟩ := step?_some h
  obtain ⟨rfl, ht, hax⟩ := hi
  refine ⟨hvm, htr.trans ht, fun I hI hr => ?_⟩
  rw [hroots, List.forall_mem_append] at hr
  rw [(Cdcl.step?_some hk).2.1]
  exact List.forall_mem_append.mpr ⟨Event.ok_sound ht hok I hI hr.1, hax I hI hr.2⟩

def init (vm : VarMap) (fuel : Nat) : State := { vm := vm, core := { fuel := fuel } }

/-- **C01 (engine level)**: if the machine accepts an event sequence of a real run and then accepts the answer
`unsat` under assumptions `A`, then no well-formed interpretation satisfies every root formula handed to the
engine together with the assumption literals. Holds for every event sequence, whatever produced it. -/
theorem unsat_sound (vm : VarMap) (fuel : Nat) (evs : List Event) (A : List Lit) (s s' : State)
    (hrun : run (init vm fuel) evs = some s) (hans : step? s (.answer (.unsat A)) = some s') :
    ¬ ∃ I : Interp, I.WF ∧ (∀ r ∈ s.roots, evalB I r = true) ∧ (∀ l ∈ A, l.eval (inducedAsg vm I) = true) := by
  rintro ⟨I, hI, hroots, hA⟩
  have hi : Inv vm s := isRun.inv step_inv hrun ⟨rfl, rfl, fun _ _ _ _ hc => nomatch hc⟩
  have hc : Cdcl.Inv s.core := Cdcl.run_inv _ _ _ (run_core hrun) (Cdcl.inv_init fuel)
  exact Cdcl.step_unsat_sound hc (step?_some hans).2.1 ⟨inducedAsg vm I, hi.2.2 I hI hroots, hA⟩

/-- **C12**: every clause in the database of an accepted run (learnt, derived, unit) is a propositional
consequence of the input and theory clauses seen so far (here with theory clauses taken as given). -/
theorem learnt_implied (s0 : State) (evs : List Event) (s : State)
    (hrun : run s0 evs = some s) (h0 : Cdcl.Inv s0.core) : Cdcl.Inv s.core :=
  Cdcl.run_inv _ _ _ (run_core hrun) h0

/-- the atom values of a model agree with an interpretation -/
def ModelAgrees (vm : VarMap) (m : List Lit) (I : Interp) : Prop :=
  ∀ l ∈ m, ∀ t, vm l.var = some t → eval I t = .b (!l.neg)

theorem modelAssign_agrees (vm : VarMap) (m : List Lit) (I : Interp) (h : ModelAgrees vm m I) :
    (modelAssign vm m).Agrees I := by
  intro e he
  obtain ⟨l, hl, hle⟩ := List.mem_filterMap.mp he
  obtain ⟨t, ht, hle⟩ := Option.bind_eq_some_iff.mp hle
  split at hle <;> cases hle
  exact h l hl t ht

/-- **C02 (engine level)**: an accepted `sat` answer comes with a Boolean model such that every
interpretation agreeing with it on the atoms makes every root formula true — the roots are evaluated from the
atom values alone, so neither the CNF encoding nor variable elimination is trusted. (That the atom values
are jointly consistent in the theory is established per run by validating a printed model, see C03.) -/
theorem sat_sound (s s' : State) (m : List Lit) (hans : step? s (.answer (.sat m)) = some s')
    (I : Interp) (hag : ModelAgrees s.vm m I) : ∀ r ∈ s.roots, evalB I r = true := by
  intro r hr
  have hok := List.all_eq_true.mp (step?_some hans).1 r hr
  rw [evalB, eval3_sound I _ (modelAssign_agrees s.vm m I hag) r true (beq_iff_eq.mp hok)]; rfl

end Osmt.Smt
