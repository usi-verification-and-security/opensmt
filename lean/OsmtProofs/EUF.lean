import Osmt.EUF
import OsmtProofs.Skel
/-! Soundness of the EUF proof checker. -/
namespace Osmt.EUF
open Osmt

def Holds (I : Interp) (e : Eqn) : Prop := eval I e.1 = eval I e.2

def AllHold (I : Interp) (d : Array Eqn) : Prop := ∀ e ∈ d, Holds I e

theorem AllHold.get {I : Interp} {d : Array Eqn} (hd : AllHold I d) {j : Nat} {e : Eqn} (h : d[j]? = some e) :
    Holds I e := hd e (Array.mem_of_getElem? h)

theorem argsOk_sound (I : Interp) (d : Array Eqn) (hd : AllHold I d) : ∀ (as bs : List Term) (js : List Nat),
    argsOk d as bs js = true → evalList I as = evalList I bs
  | [], [], [], _ => rfl
  | a :: as, b :: bs, j :: js, h => by
    rw [argsOk, Bool.and_eq_true] at h
    obtain ⟨h1, h2⟩ := h
    split at h1
    · rename_i x y hj
      obtain ⟨rfl, rfl⟩ := Bool.and_eq_true_iff.mp h1 |>.imp of_decide_eq_true of_decide_eq_true
      rw [evalList, evalList, argsOk_sound I d hd as bs js h2, show eval I x = eval I y from hd.get hj]
    · cases h1
  | [], _ :: _, _, h | [], [], _ :: _, h | _ :: _, [], _, h | _ :: _, _ :: _, [], h => by simp [argsOk] at h

theorem eval_tru (I : Interp) : eval I tru = .b true := rfl
theorem eval_fls (I : Interp) : eval I fls = .b false := rfl

theorem stepEqn_sound (I : Interp) (hyps d : Array Eqn) (hh : AllHold I hyps) (hd : AllHold I d)
    (s : Step) (e : Eqn) (h : stepEqn hyps d s = some e) : Holds I e := by
  cases s with
  | hyp i => exact hh.get h
  | refl t => rw [stepEqn] at h; cases h; rfl
  | symm j =>
    rw [stepEqn] at h
    split at h <;> cases h
    exact (hd.get ‹_›).symm
  | trans j k =>
    rw [stepEqn] at h
    split at h
    · split at h <;> cases h
      rename_i hj hk hb; subst hb
      exact (hd.get hj).trans (hd.get hk)
    · cases h
  | congr a b js =>
    obtain ⟨o1, as⟩ := a
    obtain ⟨o2, bs⟩ := b
    rw [stepEqn] at h
    split at h <;> cases h
    rename_i hc
    obtain ⟨ho, ha⟩ := Bool.and_eq_true_iff.mp hc
    cases of_decide_eq_true ho
    exact congrArg (applyOp I o1) (argsOk_sound I d hd as bs js ha)
  | eqT j =>
    rw [stepEqn] at h
    split at h <;> cases h
    rename_i a b hj
    exact congrArg Val.b ((evalB_eq I a b).trans (decide_eq_true (hd.get hj)))
  | bnot j =>
    rw [stepEqn] at h
    split at h
    · rename_i a c hj
      have hac : eval I a = eval I c := hd.get hj
      split at h
      · cases h; rename_i hc
        show Val.b (!(eval I a).toBool) = _
        rw [hac, hc]; rfl
      · split at h <;> cases h
        rename_i hc
        show Val.b (!(eval I a).toBool) = _
        rw [hac, hc]; rfl
    · cases h

theorem runSteps_sound (I : Interp) (hyps : Array Eqn) (hh : AllHold I hyps) :
    ∀ (steps : List Step) (d d' : Array Eqn), AllHold I d → runSteps hyps steps d = some d' → AllHold I d'
  | [], d, d', hd, h => by cases h; exact hd
  | s :: r, d, d', hd, h => by
    unfold runSteps at h
    split at h
    · rename_i e he
      refine runSteps_sound I hyps hh r _ d' (fun e' he' => ?_) h
      rcases Array.mem_push.mp he' with he' | rfl
      · exact hd e' he'
      · exact stepEqn_sound I hyps d hh hd s e' he
    · cases h

/-- the hypotheses extracted from a clause literal hold whenever that literal is false -/
theorem hypsOfLit_sound (I : Interp) (hI : I.WF) (l : Term × Bool) (e : Eqn) (h : e ∈ hypsOfLit l)
    (hfalse : evalB I l.1 = l.2) : Holds I e := by
  unfold hypsOfLit at h
  rcases List.mem_append.mp h with h1 | h2
  · split at h1
    · rename_i a b
      split at h1
      · nomatch h1
      · cases List.mem_singleton.mp h1
        exact of_decide_eq_true (p := eval I a = eval I b) ((evalB_eq I a b).symm.trans hfalse)
    · nomatch h1
  · split at h2
    · rename_i hb
      cases List.mem_singleton.mp h2
      show eval I l.1 = _
      rw [Mk.eval_of_isBool I hI l.1 hb, hfalse]
      cases l.2 <;> rfl
    · nomatch h2

theorem hypsOf_hold (I : Interp) (hI : I.WF) (lits : List (Term × Bool))
    (hall : ∀ l ∈ lits, evalB I l.1 = l.2) : AllHold I (hypsOf lits).toArray := by
  intro e he
  obtain ⟨l, hl, hle⟩ := List.mem_flatMap.mp (List.mem_toArray.mp he)
  exact hypsOfLit_sound I hI l e hle (hall l hl)

theorem isNumeral_eval (I : Interp) (t : Term) (q : Rat) (h : isNumeral t = some q) : eval I t = .n q := by
  unfold isNumeral at h
  split at h <;> cases h
  rfl

theorem contradicts_sound (I : Interp) (lits : List (Term × Bool)) (e : Eqn) (h : contradicts lits e = true)
    (hE : Holds I e) (hall : ∀ l ∈ lits, evalB I l.1 = l.2) : False := by
  unfold contradicts at h
  simp only [Bool.or_eq_true, List.any_eq_true, Bool.and_eq_true, decide_eq_true_eq] at h
  rcases h with ((⟨l, hl, hm⟩ | ⟨h1, h2⟩) | ⟨h1, h2⟩) | h
  · have hf := hall l hl
    split at hm
    · rename_i a b
      rw [evalB_eq] at hf
      simp only [Bool.or_eq_true, Bool.and_eq_true, decide_eq_true_eq] at hm
      rcases hm with ⟨h1, h2⟩ | ⟨h1, h2⟩
      · exact of_decide_eq_false hf (h1 ▸ h2 ▸ hE)
      · exact of_decide_eq_false hf (h1 ▸ h2 ▸ hE.symm)
    · cases hm
  · rw [Holds, h1, h2] at hE; cases hE
  · rw [Holds, h1, h2] at hE; cases hE
  · split at h
    · rename_i p q hp hq
      rw [Holds, isNumeral_eval I _ p hp, isNumeral_eval I _ q hq] at hE
      exact of_decide_eq_true h (Val.n.inj hE)
    · cases h

/-- **EUF clause validity**: a clause accepted by `eufClauseCheck` has a true literal in every well-formed
interpretation. -/
theorem eufClauseCheck_sound (lits : List (Term × Bool)) (steps : List Step) (goal : Nat)
    (h : eufClauseCheck lits steps goal = true) (I : Interp) (hI : I.WF) :
    ∃ l ∈ lits, evalB I l.1 = !l.2 := by
  refine exists_lit_true_iff.mpr fun hall => ?_
  unfold eufClauseCheck at h
  split at h
  · cases h
  · rename_i d hd
    split at h
    · rename_i e he
      have hE : Holds I e :=
        (runSteps_sound I _ (hypsOf_hold I hI lits hall) steps #[] d (fun _ h => nomatch h) hd).get he
      exact contradicts_sound I lits e h hE hall
    · cases h

end Osmt.EUF
