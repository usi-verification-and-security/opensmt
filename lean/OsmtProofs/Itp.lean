import Osmt.Itp
/-! Soundness of labelled interpolation systems: the root partial interpolant is implied by A and inconsistent with B. -/
namespace Osmt.Itp

/-- well-formedness: every literal of a leaf has a non-absent label; A-leaves follow from A, B-leaves from B;
    at a resolution node the pivot occurs only positively in n1 and only negatively in n2. -/
def Node.WF (A B : Asg → Prop) : Node → Prop
  | .leafA c lab => (∀ σ, A σ → cEval σ c = true) ∧ (∀ l ∈ c, (lab l.var).a || (lab l.var).b)
  | .leafB c lab => (∀ σ, B σ → cEval σ c = true) ∧ (∀ l ∈ c, (lab l.var).a || (lab l.var).b)
  | .leafT c lab i => ((∀ σ, A σ → cEval σ (restrA c lab) = false → i.eval σ = true) ∧
                       (∀ σ, B σ → cEval σ (restrB c lab) = false → i.eval σ = false)) ∧ (∀ l ∈ c, (lab l.var).a || (lab l.var).b)
  | .res n1 n2 p => n1.WF A B ∧ n2.WF A B ∧
      (∀ l ∈ n1.clause, l.var = p → l.neg = false) ∧ (∀ l ∈ n2.clause, l.var = p → l.neg = true) ∧
      (∃ l ∈ n1.clause, l.var = p) ∧ (∃ l ∈ n2.clause, l.var = p)

theorem cEval_false_iff (σ) (c : Clause) : cEval σ c = false ↔ ∀ l ∈ c, l.eval σ = false := by
  simp [cEval]

theorem filter_true_of_cover (σ : Asg) {c : Clause} {k k' : Lit → Bool}
    (h : ∀ l ∈ c, l.eval σ = true → k l = true ∨ k' l = true)
    (hc : cEval σ c = true) (hr : cEval σ (c.filter k) = false) : cEval σ (c.filter k') = true := by
  rw [cEval_false_iff] at hr
  simp only [cEval, List.any_eq_true, List.mem_filter] at hc ⊢
  obtain ⟨l, hl, ht⟩ := hc
  refine ⟨l, ⟨hl, (h l hl ht).resolve_left fun hk => ?_⟩, ht⟩
  rw [hr l (List.mem_filter.mpr ⟨hl, hk⟩)] at ht; exact absurd ht (by simp)

theorem filter_congr_true (σ : Asg) {c : Clause} {k k' : Lit → Bool} (h : ∀ l ∈ c, l.eval σ = true → k l = k' l) :
    cEval σ (c.filter k) = cEval σ (c.filter k') := by
  rw [Bool.eq_iff_iff]
  simp only [cEval, List.any_eq_true, List.mem_filter]
  exact ⟨fun ⟨l, ⟨hl, hk⟩, ht⟩ => ⟨l, ⟨hl, h l hl ht ▸ hk⟩, ht⟩, fun ⟨l, ⟨hl, hk⟩, ht⟩ => ⟨l, ⟨hl, h l hl ht ▸ hk⟩, ht⟩⟩

theorem mem_res_iff {n1 n2 : Node} {p : Var} {l : Lit} :
    l ∈ (Node.res n1 n2 p).clause ↔ (l ∈ n1.clause ∨ l ∈ n2.clause) ∧ l.var ≠ p := by
  simp [Node.clause, or_and_right]

/-- From the resolvent `c` restricted by `k` to a premise `c'` restricted by `k'`: a literal of the premise that `k'` keeps is
kept in the resolvent, or it is the pivot literal `⟨p, s⟩`, which is false when `σ p = s`. -/
theorem premise_restr_false (σ : Asg) {c c' : Clause} {k k' : Var → Bool} {p : Var} {s : Bool}
    (hsign : ∀ l ∈ c', l.var = p → l.neg = s)
    (hsub : ∀ l ∈ c', l.var ≠ p → k' l.var = true → l ∈ c ∧ k l.var = true)
    (hr : cEval σ (c.filter fun l => k l.var) = false) (hp : σ p = s ∨ k' p = false) :
    cEval σ (c'.filter fun l => k' l.var) = false := by
  rw [cEval_false_iff] at hr ⊢
  intro l hl
  rw [List.mem_filter] at hl
  by_cases hv : l.var = p
  · rcases hp with hp | hp
    · simp [Lit.eval, hsign l hl.1 hv, hv, hp]
    · rw [hv, hp] at hl; exact absurd hl.2 (by simp)
  · exact hr l (List.mem_filter.mpr (hsub l hl.1 hv hl.2))

theorem Lbl.join_present {x y : Lbl} (h : (x.a || x.b) = true ∨ (y.a || y.b) = true) :
    ((x.join y).a || (x.join y).b) = true := by
  have : ((x.join y).a || (x.join y).b) = ((x.a || x.b) || (y.a || y.b)) := by simp only [Lbl.join]; ac_rfl
  rw [this, Bool.or_eq_true]; exact h

theorem labelled (A B) : ∀ n : Node, n.WF A B → ∀ l ∈ n.clause, ((n.lab l.var).a || (n.lab l.var).b) = true
  | .leafA _ _, h, l, hl => h.2 l hl
  | .leafB _ _, h, l, hl => h.2 l hl
  | .leafT _ _ _, h, l, hl => h.2 l hl
  | .res n1 n2 _, h, l, hl =>
    Lbl.join_present ((mem_res_iff.mp hl).1.imp (labelled A B n1 h.1 l) (labelled A B n2 h.2.1 l))

/-- From partial interpolants `u`, `v` of the premises to that of the resolvent, the pivot having label `⟨a, b⟩` and value `s`:
the disjunction for label a, the conjunction for b, otherwise `v` if the pivot is true and `u` if not.  That choice lies
between the conjunction and the disjunction, and that is all the soundness proofs use. -/
def resOp (a b u v s : Bool) : Bool :=
  match a, b with
  | true, false => u || v
  | false, true => u && v
  | _, _ => (u || s) && (v || !s)

theorem itp_res_eval (σ : Asg) (n1 n2 : Node) (p : Var) :
    (Node.res n1 n2 p).itp.eval σ =
      resOp ((Node.res n1 n2 p).lab p).a ((Node.res n1 n2 p).lab p).b (n1.itp.eval σ) (n2.itp.eval σ) (σ p) := by
  simp only [Node.itp, Node.lab, resOp]
  generalize ((n1.lab p).join (n2.lab p)).a = a
  generalize ((n1.lab p).join (n2.lab p)).b = b
  cases a <;> cases b <;> simp [F.eval, Lit.eval]

theorem resOp_idem : ∀ a b t s, resOp a b t t s = t := by decide

/-- with the pivot's bit for side `t` (a for `true`, b for `false`), the resolvent's interpolant has the value `t` as soon as
the choice by the pivot has it -/
theorem resOp_of_choice :
    ∀ t a b u v s, (bif t then a else b) = true → (bif s then v else u) = t → resOp a b u v s = t := by decide

theorem choice_of_resOp : ∀ a b u v s, b = true → resOp a b u v s = true → (bif s then v else u) = true := by decide

theorem resOp_mono (a b : Bool) {u v u' v' : Bool} (s : Bool) (hu : u = true → u' = true) (hv : v = true → v' = true) :
    resOp a b u v s = true → resOp a b u' v' s = true := by
  match a, b with
  | true, false => simpa only [resOp, Bool.or_eq_true] using Or.imp hu hv
  | false, true => simpa only [resOp, Bool.and_eq_true] using And.imp hu hv
  | true, true | false, false => simpa only [resOp, Bool.and_eq_true, Bool.or_eq_true] using And.imp (Or.imp_left hu) (Or.imp_left hv)

/-- the bit of a label that concerns side `t`: the a-bit for A (`true`), the b-bit for B (`false`) -/
def Lbl.bit (t : Bool) (x : Lbl) : Bool := bif t then x.a else x.b

theorem Lbl.bit_join (t : Bool) (x y : Lbl) : (x.join y).bit t = (x.bit t || y.bit t) := by cases t <;> rfl

theorem Lbl.bit_or_only (t : Bool) {x : Lbl} (h : (x.a || x.b) = true) :
    x.bit t = true ∨ (x.bit (!t) && !x.bit t) = true := by
  obtain ⟨a, b⟩ := x
  revert t a b; decide

/-- One half of the invariant, for `(P, t)` = `(A, true)` and `(B, false)`: under `P`, when the literals of the clause whose
label has the bit for side `t` are false, the partial interpolant has the value `t`. -/
def Half (P : Asg → Prop) (t : Bool) (n : Node) : Prop :=
  ∀ σ, P σ → cEval σ (n.clause.filter fun l => (n.lab l.var).bit t) = false → n.itp.eval σ = t

theorem only_false (t : Bool) (σ : Asg) {c : Clause} {lab : Var → Lbl}
    (hr : cEval σ (c.filter fun l => (lab l.var).bit t) = false) :
    cEval σ (c.filter fun l => (lab l.var).bit t && !(lab l.var).bit (!t)) = false := by
  rw [cEval_false_iff] at hr ⊢
  intro l hl
  rw [List.mem_filter, Bool.and_eq_true] at hl
  exact hr l (List.mem_filter.mpr ⟨hl.1, hl.2.1⟩)

theorem only_true (t : Bool) (σ : Asg) {c : Clause} {lab : Var → Lbl}
    (hlab : ∀ l ∈ c, ((lab l.var).a || (lab l.var).b) = true) (hc : cEval σ c = true)
    (hr : cEval σ (c.filter fun l => (lab l.var).bit t) = false) :
    cEval σ (c.filter fun l => (lab l.var).bit (!t) && !(lab l.var).bit t) = true :=
  filter_true_of_cover σ (fun l hl _ => Lbl.bit_or_only t (hlab l hl)) hc hr

theorem res_half {P : Asg → Prop} {t : Bool} {n1 n2 : Node} {p : Var}
    (hpos : ∀ l ∈ n1.clause, l.var = p → l.neg = false) (hneg : ∀ l ∈ n2.clause, l.var = p → l.neg = true)
    (i1 : Half P t n1) (i2 : Half P t n2) : Half P t (.res n1 n2 p) := by
  intro σ hP hr
  -- a premise's interpolant has the value `t` when its pivot literal is false or lacks the bit
  have h1 := fun hp => i1 σ hP (premise_restr_false σ (k := fun v => ((Node.res n1 n2 p).lab v).bit t)
    (k' := fun v => (n1.lab v).bit t) hpos
    (fun l hl hv h => ⟨mem_res_iff.mpr ⟨.inl hl, hv⟩, by simp [Node.lab, Lbl.bit_join, h]⟩) hr hp)
  have h2 := fun hp => i2 σ hP (premise_restr_false σ (k := fun v => ((Node.res n1 n2 p).lab v).bit t)
    (k' := fun v => (n2.lab v).bit t) hneg
    (fun l hl hv h => ⟨mem_res_iff.mpr ⟨.inr hl, hv⟩, by simp [Node.lab, Lbl.bit_join, h]⟩) hr hp)
  rw [itp_res_eval]
  by_cases hL : ((Node.res n1 n2 p).lab p).bit t = true
  · refine resOp_of_choice t _ _ _ _ _ hL ?_
    cases hc : σ p
    · exact h1 (.inl hc)
    · exact h2 (.inl hc)
  · simp only [Node.lab, Lbl.bit_join, Bool.or_eq_true, not_or, Bool.not_eq_true] at hL
    rw [h1 (.inr hL.1), h2 (.inr hL.2)]; exact resOp_idem ..

theorem inv_all (A B) : ∀ n : Node, n.WF A B → Half A true n ∧ Half B false n
  -- `(lab v).bit true` is `(lab v).a` by unfolding, so `Half` speaks of `restrA` / `restrB` and the leaves of `onlyA` / `onlyB`
  | .leafA _ _, h =>
    ⟨fun σ hA hr => (bigOr_eval σ _).trans (only_true true σ h.2 (h.1 σ hA) hr),
     fun σ _ hr => (bigOr_eval σ _).trans (only_false false σ hr)⟩
  | .leafB _ _, h =>
    ⟨fun σ _ hr => (bigAndNeg_eval σ _).trans (congrArg not (only_false true σ hr)),
     fun σ hB hr => (bigAndNeg_eval σ _).trans (congrArg not (only_true false σ h.2 (h.1 σ hB) hr))⟩
  | .leafT _ _ _, h => h.1
  | .res n1 n2 _, h =>
    ⟨res_half h.2.2.1 h.2.2.2.1 (inv_all A B n1 h.1).1 (inv_all A B n2 h.2.1).1,
     res_half h.2.2.1 h.2.2.2.1 (inv_all A B n1 h.1).2 (inv_all A B n2 h.2.1).2⟩

/-- Root theorem: a refutation yields a Craig interpolant (semantic part). -/
theorem root_interpolant (A B) (n : Node) (h : n.WF A B) (hempty : n.clause = []) :
    (∀ σ, A σ → n.itp.eval σ = true) ∧ (∀ σ, B σ → n.itp.eval σ = false) :=
  ⟨fun σ hA => (inv_all A B n h).1 σ hA (by simp [hempty, cEval]),
   fun σ hB => (inv_all A B n h).2 σ hB (by simp [hempty, cEval])⟩

def F.vars : F → List Var
  | .tt => [] | .ff => []
  | .lit l => [l.var]
  | .and x y => x.vars ++ y.vars
  | .or x y => x.vars ++ y.vars

/-- labels are faithful to the split: an `a` bit only on variables of A, a `b` bit only on variables of B, and leaf clauses
are over the variables of their side -/
def Node.Faithful (inA inB : Var → Bool) : Node → Prop
  | .leafA c lab => (∀ l ∈ c, inA l.var = true) ∧ (∀ v, (lab v).a = true → inA v = true) ∧ (∀ v, (lab v).b = true → inB v = true)
  | .leafB c lab => (∀ l ∈ c, inB l.var = true) ∧ (∀ v, (lab v).a = true → inA v = true) ∧ (∀ v, (lab v).b = true → inB v = true)
  | .leafT _ lab i => (∀ v ∈ i.vars, inA v = true ∧ inB v = true) ∧ (∀ v, (lab v).a = true → inA v = true) ∧ (∀ v, (lab v).b = true → inB v = true)
  | .res n1 n2 _ => n1.Faithful inA inB ∧ n2.Faithful inA inB

theorem lab_faithful (inA inB) : ∀ n : Node, n.Faithful inA inB →
    ∀ v, ((n.lab v).a = true → inA v = true) ∧ ((n.lab v).b = true → inB v = true)
  | .leafA _ _, h, v => ⟨h.2.1 v, h.2.2 v⟩
  | .leafB _ _, h, v => ⟨h.2.1 v, h.2.2 v⟩
  | .leafT _ _ _, h, v => ⟨h.2.1 v, h.2.2 v⟩
  | .res n1 n2 _, h, v => by
    have h1 := lab_faithful inA inB n1 h.1 v
    have h2 := lab_faithful inA inB n2 h.2 v
    simp only [Node.lab, Lbl.join, Bool.or_eq_true]
    exact ⟨fun h => h.elim h1.1 h2.1, fun h => h.elim h1.2 h2.2⟩

theorem bigOr_vars (c : List Lit) : (bigOr c).vars = c.map (·.var) := by
  induction c <;> simp [bigOr, F.vars, *]

theorem bigAndNeg_vars (c : List Lit) : (bigAndNeg c).vars = c.map (·.var) := by
  induction c <;> simp [bigAndNeg, F.vars, Lit.not, *]

/-- the pivot enters the interpolant only where its label is neither a nor b -/
theorem itp_res_vars {n1 n2 : Node} {p v : Var} (hv : v ∈ (Node.res n1 n2 p).itp.vars) :
    v ∈ n1.itp.vars ∨ v ∈ n2.itp.vars ∨ v = p ∧ ((Node.res n1 n2 p).lab p).a = ((Node.res n1 n2 p).lab p).b := by
  revert hv
  simp only [Node.itp, Node.lab]
  generalize ((n1.lab p).join (n2.lab p)).a = a
  generalize ((n1.lab p).join (n2.lab p)).b = b
  cases a <;> cases b <;> simp [F.vars] <;> rintro (h | h | h | h) <;> simp [h]

/-- **Symbol condition**: every variable of a partial interpolant of a faithfully labelled, well-formed proof occurs in A and in B. -/
theorem itp_vars_shared (A B) (inA inB : Var → Bool) : ∀ n : Node, n.WF A B → n.Faithful inA inB →
    ∀ v ∈ n.itp.vars, inA v = true ∧ inB v = true
  | .leafA c lab, _, hf, v, hv => by
    obtain ⟨l, hl, rfl⟩ := List.mem_map.mp (bigOr_vars _ ▸ hv)
    simp only [onlyB, List.mem_filter, Bool.and_eq_true] at hl
    exact ⟨hf.1 l hl.1, hf.2.2 l.var hl.2.1⟩
  | .leafB c lab, _, hf, v, hv => by
    obtain ⟨l, hl, rfl⟩ := List.mem_map.mp (bigAndNeg_vars _ ▸ hv)
    simp only [onlyA, List.mem_filter, Bool.and_eq_true] at hl
    exact ⟨hf.2.1 l.var hl.2.1, hf.1 l hl.1⟩
  | .leafT _ _ _, _, hf, v, hv => hf.1 v hv
  | .res n1 n2 p, hw, hf, v, hv => by
    rcases itp_res_vars hv with h | h | ⟨rfl, hab⟩
    · exact itp_vars_shared A B inA inB n1 hw.1 hf.1 v h
    · exact itp_vars_shared A B inA inB n2 hw.2.1 hf.2 v h
    · -- the pivot occurs in `n1`, so the joined label has a bit; its bits agree, so it has both
      obtain ⟨k, hk, rfl⟩ := hw.2.2.2.2.1
      have e := Lbl.join_present (y := n2.lab k.var) (.inl (labelled A B n1 hw.1 k hk))
      have hL := lab_faithful inA inB (.res n1 n2 k.var) hf k.var
      simp only [Node.lab] at hab hL
      rw [hab, Bool.or_self] at e
      exact ⟨hL.1 (hab ▸ e), hL.2 e⟩

/-- the structural check at a resolution node, in the words of `Node.WF` -/
theorem structOk_res {n1 n2 : Node} {p : Var} : (Node.res n1 n2 p).structOk = true ↔
    n1.structOk = true ∧ n2.structOk = true ∧
      (∀ l ∈ n1.clause, l.var = p → l.neg = false) ∧ (∀ l ∈ n2.clause, l.var = p → l.neg = true) ∧
      (∃ l ∈ n1.clause, l.var = p) ∧ (∃ l ∈ n2.clause, l.var = p) := by
  simp only [Node.structOk, Bool.and_eq_true, List.all_eq_true, List.any_eq_true, Bool.or_eq_true, bne_iff_ne, ne_eq,
    Bool.not_eq_true', beq_iff_eq, and_assoc, Decidable.imp_iff_not_or]

theorem wf_of_structOk (A B : Asg → Prop) : ∀ n : Node, n.structOk = true → n.leavesOk A B → n.WF A B
  | .leafA _ _, hs, hl => ⟨hl, List.all_eq_true.mp hs⟩
  | .leafB _ _, hs, hl => ⟨hl, List.all_eq_true.mp hs⟩
  | .leafT _ _ _, hs, hl => ⟨hl, List.all_eq_true.mp hs⟩
  | .res n1 n2 _, hs, hl =>
    have ⟨h1, h2, rest⟩ := structOk_res.mp hs
    ⟨wf_of_structOk A B n1 h1 hl.1, wf_of_structOk A B n2 h2 hl.2, rest⟩
end Osmt.Itp
