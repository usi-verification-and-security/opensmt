import Osmt.Cdcl
import OsmtProofs.Prop
import OsmtProofs.Basics
/-! Invariant and answer soundness of the clause-learning machine, for all event sequences. -/
namespace Osmt.Cdcl
open Osmt

/-- every clause of the database is a consequence of the axioms -/
def Inv (s : State) : Prop := ∀ σ, satisfies σ s.axioms → satisfies σ s.db

theorem inv_init (fuel : Nat) : Inv { fuel := fuel } := fun _ _ _ hc => nomatch hc

theorem isRun : IsRun step? run := ⟨fun _ => rfl, fun s e es => by rw [run]; cases step? s e <;> rfl⟩

def Event.ok (s : State) : Event → Bool
  | .axiom_ _ | .answer .unknown => true
  | .learn c => rupCheck s.fuel s.db c
  | .answer (.sat m) => s.axioms.all (modelSat m) && m.all (fun l => !m.contains l.not)
  | .answer (.unsat as) => rupCheck s.fuel s.db (as.map Lit.not)

/-- the clauses an event adds: `(axioms, learnt)` -/
def Event.adds : Event → List Clause × List Clause
  | .axiom_ c => ([c], [c])
  | .learn c => ([], [c])
  | .answer _ => ([], [])

theorem step?_some {s s' : State} {e : Event} (h : step? s e = some s') :
    e.ok s = true ∧ s'.axioms = e.adds.1 ++ s.axioms ∧ s'.db = e.adds.2 ++ s.db ∧ s'.fuel = s.fuel := by
  rcases e with c | c | (m | as | _) <;>
    simp only [step?, Option.ite_none_right_eq_some, Option.some.injEq] at h
  case learn | answer.sat | answer.unsat => obtain ⟨h, rfl⟩ := h; exact ⟨h, rfl, rfl, rfl⟩
  all_goals cases h; exact ⟨rfl, rfl, rfl, rfl⟩

theorem step_inv {s s' : State} {e : Event} (h : step? s e = some s') (hi : Inv s) : Inv s' := by
  obtain ⟨hok, hax, hdb, -⟩ := step?_some h
  intro σ hσ
  rw [hax] at hσ; rw [hdb]
  obtain ⟨hnew, hold⟩ := List.forall_mem_append.mp hσ
  refine List.forall_mem_append.mpr ⟨?_, hi σ hold⟩
  cases e with
  | axiom_ c => exact hnew
  | learn c => exact List.forall_mem_singleton.mpr (rup_sound hok σ (hi σ hold))
  | answer a => exact fun _ hd => nomatch hd

theorem step_fuel {s s' : State} {e : Event} (h : step? s e = some s') : s'.fuel = s.fuel :=
  (step?_some h).2.2.2

/-- **C12 / C01 core**: in every reachable state of every accepted event sequence each database clause is
implied by the axioms. -/
theorem run_inv : ∀ (evs : List Event) (s s' : State), run s evs = some s' → Inv s → Inv s' :=
  fun _ _ _ => isRun.inv step_inv

theorem step_unsat_sound {s s' : State} {as : List Lit} (hi : Inv s)
    (h : step? s (.answer (.unsat as)) = some s') :
    ¬ ∃ σ, satisfies σ s.axioms ∧ ∀ l ∈ as, l.eval σ = true := by
  rintro ⟨σ, hax, hl⟩
  have := rup_sound (step?_some h).1 σ (hi σ hax)
  simp only [Clause.eval, List.any_eq_true, List.mem_map] at this
  obtain ⟨l, ⟨l0, hl0, rfl⟩, hlt⟩ := this
  simp [hl l0 hl0] at hlt

theorem step_sat_sound {s s' : State} {m : List Lit}
    (h : step? s (.answer (.sat m)) = some s') :
    ∃ σ, satisfies σ s.axioms ∧ agrees σ m := by
  obtain ⟨hall, hcons⟩ := Bool.and_eq_true_iff.mp (step?_some h).1
  rw [List.all_eq_true] at hall hcons
  let σ : Asg := fun v => m.contains ⟨v, false⟩
  have hag : agrees σ m := by
    intro l hl
    cases l with | mk v n =>
    cases n with
    | false => simp [Lit.eval, σ, hl]
    | true =>
      have := hcons _ hl
      simp [Lit.not] at this
      simp [Lit.eval, σ, this]
  exact ⟨σ, fun c hc => modelSat_sound (hall c hc) σ hag, hag⟩

theorem run_unsat_sound : ∀ (evs : List Event) (s s' : State) (as : List Lit),
    Inv s → run s (evs ++ [.answer (.unsat as)]) = some s' →
    ∃ s1, run s evs = some s1 ∧ ¬ ∃ σ, satisfies σ s1.axioms ∧ ∀ l ∈ as, l.eval σ = true := by
  intro evs s s' as hi h
  rw [isRun.append] at h
  obtain ⟨s1, h1, h2⟩ := Option.bind_eq_some_iff.mp h
  rw [isRun.cons] at h2
  obtain ⟨s2, h2, -⟩ := Option.bind_eq_some_iff.mp h2
  exact ⟨s1, h1, step_unsat_sound (isRun.inv step_inv h1 hi) h2⟩

end Osmt.Cdcl
