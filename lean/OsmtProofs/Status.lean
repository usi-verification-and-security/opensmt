import Osmt.Status
namespace Osmt.Status

theorem foldl_ok (evs : List Ev) (s : St) : (evs.foldl step s).ok = (s.ok && !evs.contains .error) := by
  induction evs generalizing s with
  | nil => simp
  | cons e r ih => cases e <;> simp [step, ih]

theorem foldl_ok_false (evs : List Ev) (s : St) (h : s.ok = false) : (evs.foldl step s).ok = false := by
  rw [foldl_ok, h, Bool.false_and]

end Osmt.Status
