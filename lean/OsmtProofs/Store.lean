import Osmt.Store
import OsmtProofs.Basics
/-! Hash-consing: where `intern` finds or puts a node, the invariant it keeps, and that sorting the arguments of a commutative
symbol forgets their order.  The properties themselves are in `Properties/C28.lean`. -/
namespace Osmt.Store

/-- the returned identity is the first place of the node in the returned store -/
theorem intern_idx (st : Store) (n : Node) : (intern st n).1.findIdx? (· == n) = some (intern st n).2 := by
  unfold intern
  cases h : st.findIdx? (· == n) with
  | some i => exact h
  | none => simp [List.findIdx?_append, h]

theorem intern_inv (st : Store) (n : Node) (hinv : Inv st) (hargs : ∀ a ∈ n.args, a < st.length) :
    Inv (intern st n).1 := by
  unfold intern
  split
  · exact hinv
  · rename_i h
    have hn : n ∉ st := List.idxOf?_eq_none_iff.1 h
    refine ⟨nodup_concat hinv.1 hn, ?_⟩
    · intro i m hi a ha
      rcases Nat.lt_or_ge i st.length with hlt | hge
      · exact hinv.2 i m (List.getElem?_append_left hlt ▸ hi) a ha
      · rw [List.getElem?_append_right hge, List.getElem?_singleton] at hi
        split at hi
        · cases hi; exact Nat.lt_of_lt_of_le (hargs a ha) hge
        · cases hi

theorem sort_pairwise (xs : List Nat) : (xs.mergeSort (· ≤ ·)).Pairwise (· ≤ ·) := by
  simpa using List.pairwise_mergeSort (le := fun a b : Nat => decide (a ≤ b)) (by intro a b c; simp; omega)
    (by intro a b; simp; omega) xs

theorem sort_perm {xs ys : List Nat} (hp : xs.Perm ys) : xs.mergeSort (· ≤ ·) = ys.mergeSort (· ≤ ·) :=
  ((List.mergeSort_perm xs _).trans (hp.trans (List.mergeSort_perm ys _).symm)).eq_of_pairwise
    (fun _ _ _ _ => Nat.le_antisymm) (sort_pairwise xs) (sort_pairwise ys)

theorem normal_perm (comm : Nat → Bool) (s : Nat) (xs ys : List Nat) (hc : comm s = true) (hp : xs.Perm ys) :
    normal comm ⟨s, xs⟩ = normal comm ⟨s, ys⟩ := by
  simp only [normal, hc, if_true, sort_perm hp]

theorem normal_args_perm (comm : Nat → Bool) (n : Node) : (normal comm n).args.Perm n.args := by
  unfold normal
  split
  · exact List.mergeSort_perm _ _
  · exact List.Perm.refl _

theorem inv_nil : Inv ([] : Store) := ⟨List.nodup_nil, by intro i n h; simp at h⟩

end Osmt.Store
