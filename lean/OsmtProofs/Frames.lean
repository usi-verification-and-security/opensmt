import Osmt.Frames
/-! Invariants of the frame bookkeeping for all push/pop/assert histories. -/
namespace Osmt.Frames

/-- frame terms and ids are in step; the base frame 0 is at the bottom; ids on the stack are strictly
increasing and below the next id -/
def Inv {α} (s : St α) : Prop :=
  s.frameTerms = s.frameId ∧ (enabledIds s).head? = some 0 ∧
  (enabledIds s).Pairwise (· < ·) ∧ ∀ i ∈ enabledIds s, i < s.frameId

theorem inv_init {α} : Inv (init : St α) := by
  refine ⟨rfl, rfl, ?_, ?_⟩ <;> simp [init, enabledIds]

theorem frames_eq_concat {α} {s : St α} {fr : Frame α} (h : s.frames.getLast? = some fr) :
    s.frames = s.frames.dropLast ++ [fr] := by
  obtain ⟨ys, hy⟩ := List.getLast?_eq_some_iff.1 h
  rw [hy, List.dropLast_concat]

theorem enabledIds_assert {α} (s : St α) (f : α) : enabledIds (step s (.assert f)) = enabledIds s := by
  simp only [step]
  split
  · rename_i fr h
    conv => rhs; rw [enabledIds, frames_eq_concat h]
    simp [enabledIds]
  · rfl

theorem step_inv {α} (s : St α) (op : Op α) (h : Inv s) : Inv (step s op) := by
  obtain ⟨h1, h2, h3, h4⟩ := h
  cases op with
  | push =>
    have e : enabledIds (step s .push) = enabledIds s ++ [s.frameId] := by simp [step, enabledIds]
    refine ⟨congrArg (· + 1) h1, ?_, ?_, ?_⟩ <;> rw [e]
    · rw [List.head?_append, h2]; rfl
    · exact List.pairwise_append.2 ⟨h3, List.pairwise_singleton _ _, fun a ha b hb => List.mem_singleton.1 hb ▸ h4 a ha⟩
    · exact List.forall_mem_append.2 ⟨fun i hi => Nat.lt_succ_of_lt (h4 i hi), List.forall_mem_singleton.2 (Nat.lt_succ_self _)⟩
  | pop =>
    simp only [step]
    split
    · exact ⟨h1, h2, h3, h4⟩
    · rename_i hlen
      have e : enabledIds ({ s with frames := s.frames.dropLast } : St α) = (enabledIds s).dropLast := List.map_dropLast
      have hsub := List.dropLast_sublist (enabledIds s)
      refine ⟨h1, ?_, e ▸ h3.sublist hsub, fun i hi => h4 i (hsub.subset (e ▸ hi))⟩
      rw [e, List.head?_dropLast, enabledIds, List.length_map, if_pos (by omega)]
      exact h2
  | assert f =>
    have e := enabledIds_assert s f
    have e' : (step s (.assert f)).frameId = s.frameId ∧ (step s (.assert f)).frameTerms = s.frameTerms := by
      simp only [step]; split <;> exact ⟨rfl, rfl⟩
    exact ⟨e'.2.trans (h1.trans e'.1.symm), e ▸ h2, e ▸ h3, e ▸ e'.1 ▸ h4⟩

theorem run_inv {α} (ops : List (Op α)) : Inv (run ops) :=
  List.foldlRecOn ops step inv_init fun s h op _ => step_inv s op h

/-- `solve_`'s assumption vector, entry by entry -/
theorem mem_assumptions {α} (s : St α) (i : Nat) (b : Bool) :
    (i, b) ∈ assumptions s ↔ 0 < i ∧ i < s.frameTerms ∧ b = decide (i ∈ enabledIds s) := by
  simp only [assumptions, List.tail_range, List.mem_map, List.mem_range'_1, Prod.mk.injEq]
  constructor
  · rintro ⟨j, hj, rfl, rfl⟩; exact ⟨hj.1, by omega, rfl⟩
  · rintro ⟨hp, hl, rfl⟩; exact ⟨i, by omega, rfl, rfl⟩

/-- **enabled_exact**: in every reachable state the assumption vector built by `solve_` has one entry for every
frame id ever created except the base, and enables exactly the ids of the frames on the stack. -/
theorem enabled_exact {α} (ops : List (Op α)) :
    (∀ i, 0 < i → i < (run ops).frameId → ((i, true) ∈ assumptions (run ops) ↔ i ∈ enabledIds (run ops))) ∧
    (∀ i, 0 < i → i < (run ops).frameId → ((i, false) ∈ assumptions (run ops) ↔ i ∉ enabledIds (run ops))) ∧
    (∀ p ∈ assumptions (run ops), 0 < p.1 ∧ p.1 < (run ops).frameId) := by
  have h1 := (run_inv ops).1
  refine ⟨fun i hp hl => ?_, fun i hp hl => ?_, fun p hp => ?_⟩
  · simp [mem_assumptions, h1, hp, hl]
  · simp [mem_assumptions, h1, hp, hl]
  · have := (mem_assumptions _ p.1 p.2).1 hp
    exact ⟨this.1, h1 ▸ this.2.1⟩

theorem active_push {α} (s : St α) : active (step s .push) = active s := by
  simp [step, active]

theorem active_assert {α} (s : St α) (f : α) (h : s.frames ≠ []) : active (step s (.assert f)) = active s ++ [f] := by
  obtain ⟨fr, hl⟩ := Option.isSome_iff_exists.1 (List.getLast?_isSome.2 h)
  conv => rhs; rw [active, frames_eq_concat hl]
  simp [step, hl, active]

theorem active_pop {α} (s : St α) (fr : Frame α) (h : s.frames.getLast? = some fr) (hlen : 1 < s.frames.length) :
    active (step s .pop) ++ fr.formulas = active s := by
  conv => rhs; rw [active, frames_eq_concat h]
  simp [step, Nat.not_le.2 hlen, active]

end Osmt.Frames
