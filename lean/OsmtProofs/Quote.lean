import Osmt.Quote
namespace Osmt.Quote

theorem reverse_snoc_bar (s : List Char) : (s ++ ['|']).reverse = '|' :: s.reverse := by simp

theorem readSymbol_quoted (s : List Char) :
    readSymbol ('|' :: s ++ ['|']) = if s.any (fun c => c == '|' || c == '\\') then none else some s := by
  simp only [readSymbol, List.cons_append, reverse_snoc_bar, List.reverse_reverse]

/-- the reader on a token that does not begin with a bar: it reads as itself unless `protect` would quote it -/
theorem readSymbol_bare {c : Char} (r : List Char) (hc : c ≠ '|') :
    readSymbol (c :: r) = if needsQuote (c :: r) then none else some (c :: r) := by
  unfold readSymbol
  split
  · rename_i heq; exact absurd (List.cons.inj heq).1 hc
  · simp only [needsQuote, hasQuotableChars, alreadyQuoted, beq_false_of_ne hc, Bool.false_and, Bool.not_false,
      Bool.true_and, List.isEmpty_cons, Bool.false_or]

theorem head_ne_bar {c : Char} {r : List Char} (hclean : (c :: r).all (fun c => c != '|' && c != '\\') = true) :
    c ≠ '|' := by
  simp only [List.all_cons, Bool.and_eq_true, bne_iff_ne] at hclean
  exact hclean.1.1

/-- what is printed reads back as the name, for every name without bars and backslashes -/
theorem protect_roundtrip (s : List Char) (hne : s ≠ []) (hclean : s.all (fun c => c != '|' && c != '\\') = true) :
    readSymbol (protect s) = some s := by
  rw [protect]
  by_cases hq : needsQuote s = true
  · have e : (fun c : Char => !(c == '|' || c == '\\')) = fun c => c != '|' && c != '\\' :=
      funext fun _ => Bool.not_or ..
    rw [if_pos hq, readSymbol_quoted, List.any_eq_not_all_not, e, hclean]; rfl
  · rw [if_neg hq]
    cases s with
    | nil => exact absurd rfl hne
    | cons c r => rw [readSymbol_bare r (head_ne_bar hclean), if_neg hq]

end Osmt.Quote
