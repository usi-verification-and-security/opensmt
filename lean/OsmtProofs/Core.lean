import Osmt.Core
/-! Irreducibility of minimised unsat cores (C07), for every monotone unsatisfiability oracle. -/
namespace Osmt.Core

/-- unsatisfiability only depends on the set of formulas and is preserved by adding formulas -/
def Monotone' {α} (unsat : List α → Bool) : Prop :=
  ∀ S S' : List α, (∀ x ∈ S, x ∈ S') → unsat S = true → unsat S' = true

theorem aux_spec {α} [DecidableEq α] (unsat : List α → Bool) (mono : Monotone' unsat) (bg : List α) :
    ∀ (rest kept : List α), (kept ++ rest).Nodup → unsat (bg ++ kept ++ rest) = true →
      let ks := performNaiveAux unsat bg kept rest
      unsat (bg ++ ks) = true ∧ (∃ more, ks = kept ++ more ∧ more.Sublist rest) ∧
      (∀ k ∈ ks, k ∉ kept → unsat (bg ++ ks.erase k) = false)
  | [], kept, _, hu => by
    rw [List.append_nil] at hu
    exact ⟨hu, ⟨[], (List.append_nil _).symm, .refl _⟩, fun k hk hnk => absurd hk hnk⟩
  | t :: rest, kept, hnd, hu => by
    have ht : t ∉ kept := fun hm => (List.nodup_append.mp hnd).2.2 t hm t List.mem_cons_self rfl
    rw [performNaiveAux]
    by_cases hred : unsat (bg ++ kept ++ rest) = true
    · rw [if_pos hred]
      have hnd' : (kept ++ rest).Nodup := hnd.sublist (.append_left (.cons _ (.refl _)) _)
      obtain ⟨h1, ⟨more, h2, h3⟩, h4⟩ := aux_spec unsat mono bg rest kept hnd' hred
      exact ⟨h1, ⟨more, h2, .cons _ h3⟩, h4⟩
    · rw [if_neg hred]
      have hnd' : ((kept ++ [t]) ++ rest).Nodup := by rwa [List.append_assoc]
      have hu' : unsat (bg ++ (kept ++ [t]) ++ rest) = true := by
        rwa [← List.append_assoc bg, List.append_assoc _ [t]]
      obtain ⟨h1, ⟨more, h2, h3⟩, h4⟩ := aux_spec unsat mono bg rest (kept ++ [t]) hnd' hu'
      refine ⟨h1, ⟨t :: more, by rw [h2, List.append_assoc]; rfl, .cons_cons _ h3⟩, fun k hk hnk => ?_⟩
      by_cases hkt : k = t
      · -- `t` was kept because the set without it was satisfiable; the final core without `t` is a subset of that set
        subst hkt
        refine Bool.eq_false_iff.mpr fun hx => hred (mono _ _ (fun x hxm => ?_) hx)
        rw [h2, List.append_assoc, List.erase_append_right _ ht, List.singleton_append, List.erase_cons_head,
          ← List.append_assoc] at hxm
        exact (List.mem_append.mp hxm).elim (List.mem_append_left _) (fun h => List.mem_append_right _ (h3.subset h))
      · exact h4 k hk fun hmem => (List.mem_append.mp hmem).elim hnk (hkt ∘ List.mem_singleton.mp)

/-- **C07**: if the background together with the targets is unsatisfiable, the minimised core is still
unsatisfiable with the background, is a sub-list of the targets, and removing any single member makes it
satisfiable with the background. -/
theorem naive_irreducible {α} [DecidableEq α] (unsat : List α → Bool) (mono : Monotone' unsat) (bg ts : List α)
    (hnd : ts.Nodup) (h : unsat (bg ++ ts) = true) :
    let ks := performNaive unsat bg ts
    unsat (bg ++ ks) = true ∧ ks.Sublist ts ∧ ∀ k ∈ ks, unsat (bg ++ ks.erase k) = false := by
  have := aux_spec unsat mono bg ts [] (by simpa using hnd) (by simpa using h)
  obtain ⟨h1, ⟨more, h2, h3⟩, h4⟩ := this
  refine ⟨h1, ?_, fun k hk => h4 k hk (by simp)⟩
  simp only [performNaive]
  rw [h2]; simpa using h3

end Osmt.Core
