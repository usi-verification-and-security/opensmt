import Osmt.Prop
/-! Soundness of the RUP kernel. -/
namespace Osmt

@[simp] theorem Lit.eval_not (σ : Asg) (l : Lit) : (l.not).eval σ = !(l.eval σ) := by
  cases l with | mk v n => cases n <;> simp [Lit.not, Lit.eval]

theorem isFalse_of_agrees {σ p l} (h : agrees σ p) (hf : PA.isFalse p l = true) : l.eval σ = false := by
  have : l.not ∈ p := by simpa [PA.isFalse] using hf
  have := h _ this
  simpa using this

theorem examine_sound {σ p c} (hσ : agrees σ p) (hc : Clause.eval σ c = true) :
    examine p c ≠ .conflict ∧ ∀ l, examine p c = .unit l → l.eval σ = true := by
  obtain ⟨l, hl, hlt⟩ := List.any_eq_true.mp hc
  have hnf : p.isFalse l = false := Bool.eq_false_iff.mpr fun h => by
    rw [isFalse_of_agrees hσ h] at hlt; cases hlt
  have hmem : l ∈ c.filter (fun l => !p.isFalse l) := List.mem_filter.mpr ⟨hl, by rw [hnf]; rfl⟩
  unfold examine
  by_cases hany : c.any p.isTrue = true
  · rw [if_pos hany]; exact ⟨nofun, nofun⟩
  rw [if_neg hany]
  cases hf : c.filter (fun l => !p.isFalse l) with
  | nil => rw [hf] at hmem; cases hmem
  | cons a t =>
    cases t with
    | nil =>
      rw [hf] at hmem; cases List.mem_singleton.mp hmem
      exact ⟨nofun, fun l' e => by cases e; exact hlt⟩
    | cons b t' => exact ⟨nofun, nofun⟩

theorem pass_sound {σ} : ∀ (cs : List Clause) (p : PA) (ch : Bool), satisfies σ cs → agrees σ p →
    ∃ p' ch', cs.foldl passStep (some (p, ch)) = some (p', ch') ∧ agrees σ p'
  | [], p, ch, _, hp => ⟨p, ch, rfl, hp⟩
  | c :: cs, p, ch, hcs, hp => by
    obtain ⟨hc, hcs⟩ := List.forall_mem_cons.mp hcs
    obtain ⟨hne, hunit⟩ := examine_sound hp hc
    rw [List.foldl_cons, passStep]
    cases hx : examine p c with
    | conflict => exact absurd hx hne
    | unit l => exact pass_sound cs (l :: p) true hcs (List.forall_mem_cons.mpr ⟨hunit l hx, hp⟩)
    | none => exact pass_sound cs p ch hcs hp

theorem propagate_sound {σ db} (hdb : satisfies σ db) : ∀ fuel p, agrees σ p → propagate fuel db p = false
  | 0, _, _ => rfl
  | fuel + 1, p, hp => by
    obtain ⟨p', ch', h, hp'⟩ := pass_sound db p false hdb hp
    rw [propagate, pass, h]
    cases ch' with
    | true => exact propagate_sound hdb fuel p' hp'
    | false => rfl

/-- RUP soundness: if the check succeeds, every model of `db` satisfies `c`. -/
theorem rup_sound {fuel db c} (h : rupCheck fuel db c = true) : ∀ σ, satisfies σ db → Clause.eval σ c = true := by
  intro σ hdb
  refine Bool.of_not_eq_false fun hc => ?_
  have hc : ∀ l ∈ c, l.eval σ = false := fun l hl => Bool.of_not_eq_true (List.any_eq_false.mp hc l hl)
  have hag : agrees σ (c.map Lit.not) := by
    intro l hl
    obtain ⟨l0, hl0, rfl⟩ := List.mem_map.mp hl
    rw [Lit.eval_not, hc l0 hl0]; rfl
  rw [rupCheck, propagate_sound hdb fuel _ hag, Bool.or_false, List.any_eq_true] at h
  obtain ⟨l, hl, hln⟩ := h
  have := hc _ (List.contains_iff_mem.mp hln)
  rw [Lit.eval_not, hc l hl] at this
  cases this

theorem modelSat_sound {m : List Lit} {c : Clause} (h : modelSat m c = true) (σ : Asg) (hm : agrees σ m) :
    Clause.eval σ c = true := by
  simp only [modelSat, List.any_eq_true, List.contains_eq_mem, decide_eq_true_eq] at h
  obtain ⟨l, hl, hlm⟩ := h
  simp only [Clause.eval, List.any_eq_true]
  exact ⟨l, hl, hm l hlm⟩

end Osmt
