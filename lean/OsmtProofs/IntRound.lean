import Osmt.IntRound
import Mathlib.Algebra.Order.Field.Rat
import Mathlib.Data.Int.Lemmas
/-! Exactness of integer rounding (C27), for every integer and rational input.  The bounds and the floor of a quotient are
instances of the two adjunctions `z ≤ ⌊q⌋ ↔ z ≤ q` and `⌈q⌉ ≤ z ↔ q ≤ z` (`Rat.le_floor_iff`, `Rat.ceil_le_iff`); `divmod_def`
and `gcd_normalise` are the library's characterisations of Euclidean division. -/
namespace Osmt.IntRound

/-- bounds on an integer from a rational constant (`getBoundsValueForIntVar`) -/
theorem int_bounds (z : Int) (c : Rat) :
    ((z : Rat) ≤ c ↔ z ≤ boundLeq c) ∧ ((z : Rat) < c ↔ z ≤ boundLt c) ∧
    (¬ (z : Rat) ≤ c ↔ boundNotLeq c ≤ z) ∧ (¬ (z : Rat) < c ↔ boundNotLt c ≤ z) := by
  unfold boundLeq boundLt boundNotLeq boundNotLt
  refine ⟨Rat.le_floor_iff.symm, ?_, ?_, ?_⟩
  · rw [Rat.ceil_sub_one, Int.le_sub_one_iff, Rat.lt_ceil_iff]
  · rw [Rat.floor_add_one, Int.add_one_le_iff, Rat.floor_lt_iff, not_le]
  · rw [Rat.ceil_le_iff, not_lt]

/-- the two roundings behind integer tightening (`LA.Ineq.tighten`): of a non-strict bound, and of a strict one -/
theorem nonneg_add_iff (z : Int) (k : Rat) : 0 ≤ (z : Rat) + k ↔ 0 ≤ (z : Rat) + (k.floor : Int) := by
  rw [← neg_le_iff_add_nonneg', ← neg_le_iff_add_nonneg', ← Rat.intCast_neg, Rat.intCast_le_intCast, Rat.le_floor_iff]

theorem pos_add_iff (z : Int) (k : Rat) : 0 < (z : Rat) + k ↔ 0 ≤ (z : Rat) + ((k.ceil - 1 : Int) : Rat) := by
  rw [← neg_lt_iff_pos_add', ← neg_le_iff_add_nonneg', ← Rat.intCast_neg, Rat.intCast_le_intCast, Int.le_sub_one_iff,
    Rat.lt_ceil_iff]

/-- the floor of a quotient of integers is the integer quotient: both are the largest `z` with `z * d ≤ a` -/
theorem floor_intCast_div (a d : Int) (hd : 0 < d) : ((a : Rat) / d).floor = a / d :=
  eq_of_forall_le_iff fun z => by
    rw [Rat.le_floor_iff, le_div_iff₀ (Rat.intCast_pos.mpr hd), Int.le_ediv_iff_mul_le hd, ← Rat.intCast_mul,
      Rat.intCast_le_intCast]

/-- the axioms used to eliminate `div` / `mod` characterise exactly the Euclidean quotient and remainder -/
theorem divmod_def (a d q r : Int) (hd : d ≠ 0) :
    (a = d * q + r ∧ 0 ≤ r ∧ r ≤ |d| - 1) ↔ (q = a / d ∧ r = a % d) := by
  rw [eq_comm (a := q), eq_comm (a := r), Int.ediv_emod_unique'' hd, Int.le_sub_one_iff, eq_comm, Int.add_comm]

/-- gcd normalisation of an integer inequality: dividing by a positive common factor and rounding the bound
down keeps exactly the same integer solutions -/
theorem gcd_normalise (g : Int) (hg : 0 < g) (s c : Int) : g * s ≤ c ↔ s ≤ c / g := by
  rw [Int.le_ediv_iff_mul_le hg, Int.mul_comm]

end Osmt.IntRound
