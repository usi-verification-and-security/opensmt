import Osmt.Front
/-! A rejected command is a no-op of the front-end machine; scripts with rejected commands behave as the scripts without them. -/
namespace Osmt.Front

/-- The shape of every branch of `step` but `query`: rejected with the old state, or accepted with a new one.  Used as
`guard_fst rfl`, which reads the guard and the new state off the branch of `step` at hand. -/
theorem guard_fst {c : Prop} [Decidable c] {s s' : St} {r : St × Resp} (hr : r = if c then (s, .err) else (s', .ok)) :
    (r.2 = .err → r.1 = s) ∧ (r.2 = .ok → r.1 = s') := by
  subst hr; split <;> simp

theorem step_err_id (s : St) (c : Cmd) (h : (step s c).2 = .err) : (step s c).1 = s := by
  cases c with
  | query => rfl
  | _ => exact (guard_fst rfl).1 h

theorem run_cons (s : St) (c : Cmd) (r : List Cmd) :
    run s (c :: r) = ((run (step s c).1 r).1, (step s c).2 :: (run (step s c).1 r).2) := rfl

theorem run_append (s : St) (p q : List Cmd) :
    run s (p ++ q) = ((run (run s p).1 q).1, (run s p).2 ++ (run (run s p).1 q).2) := by
  induction p generalizing s with
  | nil => rfl
  | cons c r ih => rw [List.cons_append, run_cons, ih, run_cons]; rfl

theorem run_accepted_eq (s : St) (cs : List Cmd) :
    run s (accepted s cs) = ((run s cs).1, List.replicate (accepted s cs).length .ok) := by
  induction cs generalizing s with
  | nil => rfl
  | cons c r ih =>
    rw [accepted, run_cons s c r]
    by_cases h : (step s c).2 = .err
    · rw [if_pos h, ih, step_err_id s c h]
    · have hok : (step s c).2 = .ok := by cases hr : (step s c).2 with | ok => rfl | err => exact absurd hr h
      rw [if_neg h, run_cons, ih, hok]
      rfl

theorem accepted_all_ok (s : St) (cs : List Cmd) : ∀ o ∈ (run s (accepted s cs)).2, o = .ok := by
  rw [run_accepted_eq]; exact fun o => List.eq_of_mem_replicate

/-- names of popped levels are forgotten, names of surviving levels are kept -/
theorem pop_names (s : St) (n : Nat) (h : (step s (.pop n)).2 = .ok) :
    (step s (.pop n)).1.names = s.names.take (s.names.length - n) :=
  congrArg St.names ((guard_fst rfl).2 h)

end Osmt.Front
