import Osmt.LA
import OsmtProofs.Eval
import OsmtProofs.IntRound
import Mathlib.Tactic.Ring
/-! Soundness of the linear-arithmetic kernel. -/
namespace Osmt.LA
open Osmt

/-- the valuation of unknowns induced by an interpretation -/
def xI (I : Interp) : Term → Rat := fun t => (eval I t).toRat

theorem Poly.eval_add1 (x : Term → Rat) (v : Term) (c : Rat) (p : Poly) :
    (Poly.add1 v c p).eval x = c * x v + p.eval x := by
  induction p with
  | nil => rfl
  | cons wd p ih =>
    rw [Poly.add1]
    by_cases h : v = wd.1
    · rw [if_pos h, Poly.eval, Poly.eval, h]; ring
    · rw [if_neg h, Poly.eval, Poly.eval, ih]; ring

theorem Poly.eval_addScaled (x : Term → Rat) (k : Rat) (p acc : Poly) :
    (Poly.addScaled k p acc).eval x = k * p.eval x + acc.eval x := by
  induction p generalizing acc with
  | nil => rw [Poly.addScaled, Poly.eval, mul_zero, zero_add]
  | cons vc p ih => rw [Poly.addScaled, ih, Poly.eval_add1, Poly.eval]; ring

theorem Poly.eval_zero (x : Term → Rat) (p : Poly) (h : ∀ vc ∈ p, vc.2 = 0) : p.eval x = 0 := by
  induction p with
  | nil => rfl
  | cons vc p ih =>
    rw [List.forall_mem_cons] at h
    rw [Poly.eval, h.1, ih h.2, zero_mul, zero_add]

theorem Lin.eval_add (x) (a b : Lin) : (Lin.add a b).eval x = a.eval x + b.eval x := by
  simp only [Lin.add, Lin.eval, Poly.eval_addScaled]; ring
theorem Lin.eval_scale (x) (k : Rat) (a : Lin) : (Lin.scale k a).eval x = k * a.eval x := by
  simp only [Lin.scale, Lin.eval, Poly.eval_addScaled, Poly.eval]; ring
theorem Lin.eval_sub (x) (a b : Lin) : (Lin.sub a b).eval x = a.eval x - b.eval x := by
  simp only [Lin.sub, Lin.eval, Poly.eval_addScaled]; ring
theorem Lin.eval_const (x) (a : Lin) (h : a.isConst = true) : a.eval x = a.const := by
  rw [Lin.eval, Poly.eval_zero x _ fun vc hvc => of_decide_eq_true (List.all_eq_true.mp h vc hvc), zero_add]
theorem Lin.eval_num (x) (q : Rat) : Lin.eval x ⟨[], q⟩ = q := zero_add q
theorem Lin.eval_unknown (x : Term → Rat) (t : Term) : Lin.eval x ⟨[(t, 1)], 0⟩ = x t := by
  simp only [Lin.eval, Poly.eval, one_mul, add_zero]

mutual
  theorem linearize_sound (I : Interp) : ∀ t : Term, (linearize t).eval (xI I) = xI I t
    | .app o as => by
      unfold linearize
      split
      · exact Lin.eval_num ..
      · exact linSum_sound I as
      · exact linProd_sound I as
      · -- `cases`, not `split`: with `split` here the structural-recursion check of this block costs 15 times more
        cases as with
        | nil => exact Lin.eval_num ..
        | cons a r =>
          cases r with
          | nil =>
            show Lin.eval (xI I) (Lin.scale (-1) (linearize a)) = -xI I a
            rw [Lin.eval_scale, linearize_sound I a, neg_one_mul]
          | cons b r =>
            show Lin.eval (xI I) (Lin.sub (linearize a) (linSum (b :: r))) = xI I a - sumVals (evalList I (b :: r))
            rw [Lin.eval_sub, linearize_sound I a, linSum_sound I (b :: r)]
      · exact Lin.eval_unknown ..
  theorem linSum_sound (I : Interp) : ∀ ts : List Term, (linSum ts).eval (xI I) = sumVals (evalList I ts)
    | [] => Lin.eval_num ..
    | t :: r => by rw [linSum, Lin.eval_add, linearize_sound I t, linSum_sound I r]; rfl
  theorem linProd_sound (I : Interp) : ∀ ts : List Term, (linProd ts).eval (xI I) = prodVals (evalList I ts)
    | [] => Lin.eval_num ..
    | t :: r => by
      have h1 := linearize_sound I t
      have h2 := linProd_sound I r
      simp only [linProd]
      split
      · rename_i hc
        rw [Lin.eval_scale, h2, ← Lin.eval_const (xI I) _ hc, h1]; rfl
      · split
        · rename_i hc
          rw [Lin.eval_scale, h1, ← Lin.eval_const (xI I) _ hc, h2]; exact mul_comm ..
        · exact Lin.eval_unknown ..
end

theorem isNum_eval (I : Interp) (hI : I.WF) (t : Term) (h : isNum t = true) : eval I t = .n (xI I t) := by
  fun_induction isNum t
  case case8 => exact Val.hasSort_num (eval_var_hasSort hI ..) (by simpa using h)
  case case9 => exact Val.hasSort_num (eval_uf_hasSort hI ..) (by simpa using h)  -- 8, 9: declared symbols
  case case10 c a b iha ihb =>  -- `ite c a b`
    rw [Bool.and_eq_true] at h
    rw [xI, eval_ite]; split
    exacts [iha h.1, ihb h.2]
  case case11 | case12 => cases h
  all_goals rfl  -- arithmetic operators

theorem intUnknown_eval (I : Interp) (hI : I.WF) (t : Term) (h : isIntUnknown t = true) :
    ∃ z : Int, xI I t = (z : Rat) := by
  have hs : (eval I t).hasSort .int = true := by
    unfold isIntUnknown at h
    split at h
    · rw [← of_decide_eq_true h]; exact eval_var_hasSort hI ..
    · rw [← of_decide_eq_true h]; exact eval_uf_hasSort hI ..
    · cases h
  exact ⟨_, (Rat.coe_int_num_of_den_eq_one (Val.hasSort_int hs)).symm⟩

theorem integral_eval (I : Interp) (hI : I.WF) : ∀ (p : Poly),
    p.all (fun vc => isIntUnknown vc.1 && decide (vc.2.den = 1)) = true → ∃ z : Int, p.eval (xI I) = (z : Rat)
  | [], _ => ⟨0, rfl⟩
  | (v, c) :: p, h => by
    simp only [List.all_cons, Bool.and_eq_true, decide_eq_true_eq] at h
    obtain ⟨z1, h1⟩ := intUnknown_eval I hI v h.1.1
    obtain ⟨z2, h2⟩ := integral_eval I hI p h.2
    exact ⟨c.num * z1 + z2, by
      rw [Poly.eval, h1, h2, Rat.intCast_add, Rat.intCast_mul, Rat.coe_int_num_of_den_eq_one h.1.2]⟩

/-- tightening keeps exactly the solutions in well-formed interpretations: the polynomial of an integral constraint takes
an integer value `z`, and `IntRound.pos_add_iff` / `nonneg_add_iff` round the constant -/
theorem tighten_iff (I : Interp) (hI : I.WF) (i : Ineq) : (i.tighten).holds (xI I) ↔ i.holds (xI I) := by
  unfold Ineq.tighten
  by_cases hint : i.lin.isIntegral = true
  · obtain ⟨z, hz⟩ := integral_eval I hI i.lin.poly hint
    rw [if_pos hint]
    by_cases hs : i.strict = true
    · rw [if_pos hs, Ineq.holds, Ineq.holds, if_pos hs, if_neg Bool.false_ne_true, Lin.eval, Lin.eval, hz]
      exact (IntRound.pos_add_iff z _).symm
    · rw [if_neg hs, Ineq.holds, Ineq.holds, if_neg hs, if_neg Bool.false_ne_true, Lin.eval, Lin.eval, hz]
      exact (IntRound.nonneg_add_iff z _).symm
  · rw [if_neg hint]

theorem tighten_sound (I : Interp) (hI : I.WF) (i : Ineq) (h : i.holds (xI I)) : (i.tighten).holds (xI I) :=
  (tighten_iff I hI i).mpr h

def Item.holds (x : Term → Rat) : Item → Prop
  | .conj is => ∀ i ∈ is, i.holds x
  | .disj a b => a.holds x ∨ b.holds x
  | .skip => True

theorem holds_sub (I : Interp) (a b : Term) (s : Bool) :
    Ineq.holds (xI I) ⟨Lin.sub (linearize a) (linearize b), s⟩ ↔ if s = true then xI I b < xI I a else xI I b ≤ xI I a := by
  unfold Ineq.holds
  rw [Lin.eval_sub, linearize_sound, linearize_sound, sub_pos, sub_nonneg]

theorem tighten_sub (I : Interp) (hI : I.WF) (a b : Term) (s : Bool)
    (h : if s = true then xI I b < xI I a else xI I b ≤ xI I a) :
    (Ineq.tighten ⟨Lin.sub (linearize a) (linearize b), s⟩).holds (xI I) :=
  tighten_sound I hI _ ((holds_sub I a b s).mpr h)

theorem itemOf_sound (I : Interp) (hI : I.WF) (atom : Term) (neg : Bool) (h : evalB I atom = !neg) :
    (itemOf atom neg).holds (xI I) := by
  fun_cases itemOf atom neg
  -- the four order atoms in either polarity: the literal says how the two values compare
  case case1 | case2 | case3 | case4 | case5 | case6 | case7 | case8 =>
    rename_i hn
    exact List.forall_mem_singleton.mpr (tighten_sub I hI _ _ _ (by
      simpa [xI, evalB_leq, evalB_lt, evalB_geq, evalB_gt, hn] using h))
  case case10 a b _ _ _ hn hnum =>
    -- `a ≠ b` between numbers: one of the two strict differences is positive
    rw [evalB_eq, hn] at h
    rw [Bool.and_eq_true] at hnum
    have hne : xI I a ≠ xI I b := fun e => of_decide_eq_false h (by
      rw [isNum_eval I hI a hnum.1, isNum_eval I hI b hnum.2, e])
    rcases lt_or_gt_of_ne hne with hlt | hgt
    · exact .inr (tighten_sub I hI b a true hlt)
    · exact .inl (tighten_sub I hI a b true hgt)
  case case12 a b _ _ _ hn =>
    -- `a = b`: both differences are non-negative
    rw [evalB_eq, Bool.eq_false_of_not_eq_true hn] at h
    have e : xI I a = xI I b := congrArg Val.toRat (of_decide_eq_true h)
    exact List.forall_mem_cons.mpr ⟨(holds_sub I a b false).mpr (le_of_eq e.symm),
      List.forall_mem_singleton.mpr ((holds_sub I b a false).mpr (le_of_eq e))⟩
  all_goals trivial  -- literals that contribute nothing

/-- the inequality a combination stands for -/
def combHolds (x : Term → Rat) (r : Poly × Rat × Bool) : Prop :=
  if r.2.2 then 0 < r.1.eval x + r.2.1 else 0 ≤ r.1.eval x + r.2.1

theorem strictIf_iff (s : Bool) (v : Rat) : (if s = true then 0 < v else 0 ≤ v) ↔ 0 ≤ v ∧ (s = true → 0 < v) := by
  cases s
  · exact ⟨fun h => ⟨h, fun e => absurd e Bool.false_ne_true⟩, fun h => h.1⟩
  · exact ⟨fun h => ⟨le_of_lt h, fun _ => h⟩, fun h => h.2 rfl⟩

theorem Ineq.holds_iff (x : Term → Rat) (i : Ineq) :
    i.holds x ↔ 0 ≤ i.lin.eval x ∧ (i.strict = true → 0 < i.lin.eval x) := strictIf_iff _ _

theorem combHolds_iff (x : Term → Rat) (r : Poly × Rat × Bool) :
    combHolds x r ↔ 0 ≤ r.1.eval x + r.2.1 ∧ (r.2.2 = true → 0 < r.1.eval x + r.2.1) := strictIf_iff _ _

theorem combHolds_cons (x : Term → Rat) (i : Ineq) (k : Rat) (rest : List (Ineq × Rat))
    (hk : 0 ≤ k) (hi : i.holds x) (hr : combHolds x (combine rest)) : combHolds x (combine ((i, k) :: rest)) := by
  rw [Ineq.holds_iff] at hi
  rw [combHolds_iff] at hr ⊢
  have e : (combine ((i, k) :: rest)).1.eval x + (combine ((i, k) :: rest)).2.1 =
      k * i.lin.eval x + ((combine rest).1.eval x + (combine rest).2.1) := by
    simp only [combine, Poly.eval_addScaled, Lin.eval]; ring
  rw [e]
  have hki := mul_nonneg hk hi.1
  refine ⟨add_nonneg hki hr.1, fun h => ?_⟩
  simp only [combine, Bool.or_eq_true, Bool.and_eq_true, decide_eq_true_eq] at h
  rcases h with h | ⟨hs, hk'⟩
  · exact add_pos_of_nonneg_of_pos hki (hr.2 h)
  · exact add_pos_of_pos_of_nonneg (mul_pos hk' (hi.2 hs)) hr.1

/-- extending a combination by constraints that hold keeps it true: the step behind path interpolants of Farkas leaves -/
theorem combine_extend (x : Term → Rat) (mid rest : List (Ineq × Rat))
    (hpos : ∀ ik ∈ mid, 0 ≤ ik.2) (hh : ∀ ik ∈ mid, ik.1.holds x) (hr : combHolds x (combine rest)) :
    combHolds x (combine (mid ++ rest)) := by
  induction mid with
  | nil => exact hr
  | cons ik tl ih =>
    rw [List.forall_mem_cons] at hpos hh
    exact combHolds_cons x ik.1 ik.2 _ hpos.1 hh.1 (ih hpos.2 hh.2)

theorem combine_holds (x : Term → Rat) (cs : List (Ineq × Rat))
    (hpos : ∀ ik ∈ cs, 0 ≤ ik.2) (hh : ∀ ik ∈ cs, ik.1.holds x) : combHolds x (combine cs) :=
  List.append_nil cs ▸ combine_extend x cs [] hpos hh (le_of_eq (zero_add 0).symm)

theorem farkas_sound (cs : List (Ineq × Rat)) (h : farkasCheck cs = true) :
    ¬ ∃ x : Term → Rat, ∀ ik ∈ cs, ik.1.holds x := by
  rintro ⟨x, hx⟩
  simp only [farkasCheck, Bool.and_eq_true, List.all_eq_true, decide_eq_true_eq] at h
  obtain ⟨hpos, hz, hc⟩ := h
  -- the combination is true at `x`, but its unknowns cancel and its constant has the wrong sign
  have key := combine_holds x cs hpos hx
  rw [combHolds, Poly.eval_zero x _ hz, zero_add] at key
  by_cases hs : (combine cs).2.2 = true
  · rw [if_pos hs] at key hc; exact not_lt.mpr (of_decide_eq_true hc) key
  · rw [if_neg hs] at key hc; exact not_le.mpr (of_decide_eq_true hc) key

theorem refute_sound : ∀ (cert : Cert) (conj : List Ineq) (disjs : List (Ineq × Ineq)),
    refute conj disjs cert = true →
    ¬ ∃ x : Term → Rat, (∀ i ∈ conj, i.holds x) ∧ (∀ d ∈ disjs, d.1.holds x ∨ d.2.holds x)
  | .farkas ws, conj, disjs, h => by
    rintro ⟨x, hc, _⟩
    rw [refute] at h
    exact farkas_sound _ h ⟨x, fun ik hik => hc ik.1 (List.of_mem_zip hik).1⟩
  | .split lo hi, conj, disjs, h => by
    rintro ⟨x, hc, hd⟩
    cases disjs with
    | nil => simp [refute] at h
    | cons d rest =>
      rw [refute, Bool.and_eq_true] at h
      rw [List.forall_mem_cons] at hd
      rcases hd.1 with ha | hb
      · exact refute_sound lo _ rest h.1 ⟨x, List.forall_mem_cons.mpr ⟨ha, hc⟩, hd.2⟩
      · exact refute_sound hi _ rest h.2 ⟨x, List.forall_mem_cons.mpr ⟨hb, hc⟩, hd.2⟩

theorem collect_holds (x : Term → Rat) (items : List Item) (h : ∀ it ∈ items, it.holds x) :
    (∀ i ∈ (collect items).1, i.holds x) ∧ (∀ d ∈ (collect items).2, d.1.holds x ∨ d.2.holds x) := by
  induction items with
  | nil => exact ⟨List.forall_mem_nil _, List.forall_mem_nil _⟩
  | cons it r ih =>
    rw [List.forall_mem_cons] at h
    have ih := ih h.2
    cases it with
    | conj is => exact ⟨List.forall_mem_append.mpr ⟨h.1, ih.1⟩, ih.2⟩
    | disj a b => exact ⟨ih.1, List.forall_mem_cons.mpr ⟨h.1, ih.2⟩⟩
    | skip => exact ih

/-- literals `(atom, p l)` (atom, negated?) that are all true at a well-formed `I` yield constraints that no certificate
refutes; `p` is the polarity convention of the caller -/
theorem refute_lits (I : Interp) (hI : I.WF) (lits : List (Term × Bool)) (p : Term × Bool → Bool)
    (hall : ∀ l ∈ lits, evalB I l.1 = !p l) (cert : Cert) :
    ¬ refute (collect (lits.map fun l => itemOf l.1 (p l))).1 (collect (lits.map fun l => itemOf l.1 (p l))).2 cert = true :=
  fun h => refute_sound cert _ _ h ⟨xI I,
    collect_holds (xI I) _ (List.forall_mem_map.mpr fun l hl => itemOf_sound I hI l.1 (p l) (hall l hl))⟩

/-- **LA clause validity**: a clause accepted by `laClauseCheck` has a true literal in every well-formed
interpretation (integers for `Int` symbols, arbitrary values for foreign subterms). -/
theorem laClauseCheck_sound (lits : List (Term × Bool)) (cert : Cert) (h : laClauseCheck lits cert = true)
    (I : Interp) (hI : I.WF) : ∃ l ∈ lits, evalB I l.1 = !l.2 :=
  -- `laClauseCheck lits cert` is that `refute` on the collected constraints, by unfolding its `let`
  exists_lit_true_iff.mpr fun hall =>
    refute_lits I hI lits (fun l => !l.2) (fun l hl => (hall l hl).trans (Bool.not_not _).symm) cert h

/-- **C26**: bounds accepted by `conflictCheck` with their coefficients are jointly unsatisfiable (over ℚ, and
over ℤ for `Int` symbols): no well-formed interpretation makes all of them true. -/
theorem conflictCheck_sound (lits : List (Term × Bool)) (ws : List Rat) (h : conflictCheck lits ws = true) :
    ¬ ∃ I : Interp, I.WF ∧ ∀ l ∈ lits, evalB I l.1 = !l.2 := by
  rintro ⟨I, hI, hall⟩
  simp only [conflictCheck, Bool.and_eq_true] at h
  exact refute_lits I hI lits (·.2) hall (.farkas ws) (by rw [refute]; exact h.2)

end Osmt.LA
