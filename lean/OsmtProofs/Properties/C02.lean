import OsmtProofs.Smt
import OsmtProofs.Properties.C03
/-!
# C02 — a `sat` answer is never given for an unsatisfiable assertion set

Two executable acceptance conditions, each with its theorem:

* engine level (`C02_sat_roots`): the machine accepts `sat` only with a Boolean model under which every
  root formula evaluates to true *from the atom values alone* (three-valued evaluation; an unassigned atom
  that matters makes the answer rejected) and which satisfies every input clause;
* semantic level (`C02_validated_model`): a printed model under which every current assertion evaluates to
  true *is* a model: `Model.satisfies m ts = true → ∃ I, Sat I ts`, and its constants are well-sorted
  (integers for `Int`) when `constsWellSorted` holds.

Not proved (covered per run only): that the theory solvers' final check is complete — the per-run evidence
is the validated model.  Array logics print no models and are outside this check.
-/
namespace Osmt.Properties
open Osmt

theorem C02_sat_roots (s s' : Smt.State) (m : List Lit) (hans : Smt.step? s (.answer (.sat m)) = some s')
    (I : Interp) (hag : Smt.ModelAgrees s.vm m I) : ∀ r ∈ s.roots, evalB I r = true :=
  Smt.sat_sound s s' m hans I hag

theorem C02_validated_model (m : Model) (ts : List Term) (h : m.satisfies ts = true) : ∃ I, Sat I ts :=
  ⟨m.interp, (C03_model_satisfies m ts).mp h⟩

/-- hence an assertion set with a validated model is not `Unsat` as soon as the model is well-formed -/
theorem C02_not_unsat (m : Model) (ts : List Term) (h : m.satisfies ts = true) (hwf : m.interp.WF) : ¬ Unsat ts :=
  fun hu => hu ⟨m.interp, hwf, (C03_model_satisfies m ts).mp h⟩

/-! Non-vacuity: root `(or b c)`, model `b ↦ false, c ↦ true` is accepted; `b ↦ false` alone (c unassigned) is not. -/
def sB : Term := .app (.var 0 .bool) []
def sC : Term := .app (.var 1 .bool) []
def sVm : VarMap := fun v => if v = 0 then some sB else if v = 1 then some sC else none
def sState : Smt.State := { vm := sVm, roots := [.app .or [sB, sC]], core := { fuel := 3 } }
example : (Smt.step? sState (.answer (.sat [⟨0, true⟩, ⟨1, false⟩]))).isSome = true := by decide
example : (Smt.step? sState (.answer (.sat [⟨0, true⟩]))).isSome = false := by decide

end Osmt.Properties
