import OsmtProofs.IntRound
import OsmtProofs.LA
/-!
# C27 — integer rounding is exact for every integer input

For all integers and rationals: constant folding of `div` / `mod` is the SMT-LIB Euclidean quotient and
remainder for either divisor sign; the axioms used to eliminate `div` / `mod` characterise exactly those;
strict and non-strict bounds on integer terms are tightened to exactly the same integer solutions; gcd
normalisation keeps the integer solutions; the negation of an integer difference constraint is exact.
The integer tightening used by the LA kernel (`tighten_sound`) is the same fact on linear polynomials.
Machine-word overflow of the difference-logic type is outside these statements (see C02's IDL fix).
-/
namespace Osmt.Properties
open Osmt.IntRound

/-- constant folding of `div`: SMT-LIB (Euclidean) quotient for either sign of the divisor -/
theorem C27_fold_div (a d : Int) (hd : d ≠ 0) : foldDiv a d = a / d := by
  unfold foldDiv
  rcases lt_or_gt_of_ne hd with hneg | hpos
  · -- ⌈a / d⌉ = -⌊a / -d⌋ = -(a / -d) = a / d
    rw [if_neg (by omega), Rat.ceil_eq_neg_floor_neg, ← div_neg, ← Rat.intCast_neg, floor_intCast_div a (-d) (by omega),
      Int.ediv_neg, neg_neg]
  · rw [if_pos hpos, floor_intCast_div a d hpos]
/-- constant folding of `mod`: SMT-LIB (Euclidean) remainder, `0 ≤ r < |d|` -/
theorem C27_fold_mod (a d : Int) (hd : d ≠ 0) : foldMod a d = a % d := by
  rw [foldMod, C27_fold_div a d hd, Int.emod_def, Int.mul_comm]
theorem C27_mod_range (a d : Int) (hd : d ≠ 0) : 0 ≤ foldMod a d ∧ foldMod a d < |d| := by
  rw [C27_fold_mod a d hd]; exact ⟨Int.emod_nonneg a hd, Int.emod_lt_abs a hd⟩
theorem C27_divmod_axioms (a d q r : Int) (hd : d ≠ 0) :
    (a = d * q + r ∧ 0 ≤ r ∧ r ≤ |d| - 1) ↔ (q = a / d ∧ r = a % d) := divmod_def a d q r hd
theorem C27_int_bounds (z : Int) (c : Rat) :
    ((z : Rat) ≤ c ↔ z ≤ boundLeq c) ∧ ((z : Rat) < c ↔ z ≤ boundLt c) ∧
    (¬ (z : Rat) ≤ c ↔ boundNotLeq c ≤ z) ∧ (¬ (z : Rat) < c ↔ boundNotLt c ≤ z) := int_bounds z c
theorem C27_gcd_normalise (g : Int) (hg : 0 < g) (s c : Int) : g * s ≤ c ↔ s ≤ c / g := gcd_normalise g hg s c
theorem C27_negate_difference (x y c : Int) : ¬ (x - y ≤ c) ↔ y - x ≤ negateDL c := by
  unfold negateDL; omega
theorem C27_tighten (I : Interp) (hI : I.WF) (i : LA.Ineq) (h : i.holds (LA.xI I)) : (i.tighten).holds (LA.xI I) :=
  LA.tighten_sound I hI i h

example : foldDiv 7 (-2) = -3 ∧ foldMod 7 (-2) = 1 ∧ foldDiv (-7) 2 = -4 ∧ foldMod (-7) 2 = 1 := by decide +kernel
example : boundLt (3 / 2) = 1 ∧ boundNotLeq (3 / 2) = 2 ∧ boundLt 2 = 1 := by decide +kernel

end Osmt.Properties
