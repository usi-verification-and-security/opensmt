import OsmtProofs.Pipe
/-!
# C20 — pipe mode and file mode produce identical results

The pipe-mode scanner is mirrored byte-wise (`Osmt/Pipe.lean`).  For every byte string and every way of
splitting it across reads the scanner emits the same commands and the same error (`C20_chunk_independent`,
`C20_two_chunkings_agree`); emitted commands are never altered by later input (`C20_frames_prefix`); the depth
counter cannot go negative without the "unbalanced parentheses" error (`C20_depth`).
Equality of output with file mode is tied per run (same script through a file and through the pipe under several chunk schedules).
-/
namespace Osmt.Properties
open Osmt.Pipe

theorem C20_chunk_independent (s : St) (chunks : List (List Char)) : runChunks s chunks = run s chunks.flatten :=
  chunk_independent s chunks
theorem C20_two_chunkings_agree (s : St) (c1 c2 : List (List Char)) (h : c1.flatten = c2.flatten) :
    runChunks s c1 = runChunks s c2 := two_chunkings_agree s c1 c2 h
theorem C20_frames_prefix (bytes : List Char) (s : St) : ∃ more, (run s bytes).frames = s.frames ++ more :=
  let ⟨more, h⟩ := run_frames_prefix bytes s
  ⟨more, h.symm⟩
theorem C20_depth (bytes : List Char) (s : St) (h : 0 ≤ s.par) :
    (run s bytes).unbalanced = true ∨ 0 ≤ (run s bytes).par := run_par_nonneg bytes s (.inr h)

/-- a quoted symbol or string containing parentheses or a semicolon does not disturb the framing -/
example : (run {} "(a |x(y;| \"p)q\")(b)".toList).frames = ["(a |x(y;| \"p)q\")".toList, "(b)".toList] := by decide +kernel
/-- backslash escapes inside string literals are honoured as in the lexer (after the fix recorded in
known_findings.json): `(echo "a\"b")(c)` is two commands -/
example : (run {} "(echo \"a\\\"b\")(c)".toList).frames = ["(echo \"a\\\"b\")".toList, "(c)".toList] := by decide +kernel

end Osmt.Properties
