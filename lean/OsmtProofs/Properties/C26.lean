import OsmtProofs.LA
/-!
# C26 — arithmetic conflicts carry valid Farkas certificates

`conflictCheck lits ws` is the executable statement of the property for one conflict: one strictly positive
coefficient per conflicting bound, the weighted sum cancels every unknown and leaves a false constant
inequality (integer bounds being read with integer tightening, as the solver does).  The theorem says that
such a certificate really refutes the bounds.  The tie runs `conflictCheck` on the bounds and coefficients
that `LASolver::storeExplanation` stores for *every* conflict of every traced run.
-/
namespace Osmt.Properties
open Osmt

theorem C26_conflict_certificate_sound (lits : List (Term × Bool)) (ws : List Rat)
    (h : LA.conflictCheck lits ws = true) : ¬ ∃ I : Interp, I.WF ∧ ∀ l ∈ lits, evalB I l.1 = !l.2 :=
  LA.conflictCheck_sound lits ws h

/-- the check demands strictly positive coefficients, one per bound -/
theorem C26_coefficients_positive (lits : List (Term × Bool)) (ws : List Rat)
    (h : LA.conflictCheck lits ws = true) : (∀ w ∈ ws, 0 < w) ∧ lits.length = ws.length := by
  simp only [LA.conflictCheck, Bool.and_eq_true, List.all_eq_true, decide_eq_true_eq] at h
  exact ⟨h.1.2, h.1.1.2⟩

/-! Non-vacuity: `x ≤ 0` and `1 ≤ x` with coefficients (1,1) is accepted; with (1,0) it is not. -/
def cX : Term := .app (.var 0 .real) []
def c0 : Term := .app (.num 0) []
def c1 : Term := .app (.num 1) []
example : LA.conflictCheck [(.app .leq [cX, c0], false), (.app .leq [c1, cX], false)] [1, 1] = true := by decide +kernel
example : LA.conflictCheck [(.app .leq [cX, c0], false), (.app .leq [c1, cX], false)] [1, 0] = false := by decide +kernel

end Osmt.Properties
