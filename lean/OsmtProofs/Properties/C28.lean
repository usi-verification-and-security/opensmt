import OsmtProofs.Store
/-!
# C28 — equal terms share one identity and subterms come first

For the hash-consed store (`Osmt.Store`): building the same node twice gives the same identity and leaves the store
unchanged; identities are stable; different identities hold different nodes; the arguments of every term are older than the
term; commutative symbols are insensitive to the order of their arguments.  All for every store reachable from the empty
store and every node.  The tie drives `Logic`'s constructors and the model with the same construction sequences and
compares which results coincide, which are new, and the order of identities.
-/
namespace Osmt.Properties
open Osmt.Store

theorem C28_same_node_same_identity (st : Store) (n : Node) :
    intern (intern st n).1 n = ((intern st n).1, (intern st n).2) := by
  rw [intern, intern_idx]

theorem C28_identity_holds_node (st : Store) (n : Node) : (intern st n).1[(intern st n).2]? = some n := by
  obtain ⟨hi, he, -⟩ := List.idxOf?_eq_some_iff.1 (intern_idx st n)
  rw [List.getElem?_eq_getElem hi, he]

theorem C28_identities_stable (st : Store) (n : Node) : ∃ r, (intern st n).1 = st ++ r := by
  unfold intern
  split
  · exact ⟨[], (List.append_nil _).symm⟩
  · exact ⟨[n], rfl⟩

theorem C28_distinct_identities_distinct_terms (st : Store) (hinv : Inv st) (i j : Nat) (a b : Node)
    (hi : st[i]? = some a) (hj : st[j]? = some b) (hne : i ≠ j) : a ≠ b := by
  rintro rfl
  exact hne ((List.getElem?_inj (List.getElem?_eq_some_iff.1 hi).1 hinv.1).1 (hi.trans hj.symm))

/-- with `inv_nil`: every store built from the empty one by `mk` with arguments that exist satisfies the invariant -/
theorem C28_invariant_kept (comm : Nat → Bool) (st : Store) (n : Node) (hinv : Inv st) (hargs : ∀ a ∈ n.args, a < st.length) :
    Inv (mk comm st n).1 :=
  intern_inv st _ hinv fun a ha => hargs a ((normal_args_perm comm n).mem_iff.1 ha)

theorem C28_subterms_first (st : Store) (hinv : Inv st) (i : Nat) (n : Node) (h : st[i]? = some n) : ∀ a ∈ n.args, a < i :=
  hinv.2 i n h

theorem C28_commutative_order_insensitive (comm : Nat → Bool) (st : Store) (s : Nat) (xs ys : List Nat)
    (hc : comm s = true) (hp : xs.Perm ys) : mk comm st ⟨s, xs⟩ = mk comm st ⟨s, ys⟩ :=
  congrArg (intern st) (normal_perm comm s xs ys hc hp)

/-- non-vacuity: (= a b) and (= b a) share an identity, f(a, b) and f(b, a) do not -/
example (comm : Nat → Bool) (h : comm 9 = true) (st : Store) : mk comm st ⟨9, [0, 1]⟩ = mk comm st ⟨9, [1, 0]⟩ :=
  C28_commutative_order_insensitive comm st 9 [0, 1] [1, 0] h (List.Perm.swap 1 0 [])
example :
    let st : Store := [⟨1, []⟩, ⟨2, []⟩]
    (intern st ⟨7, [0, 1]⟩).2 ≠ (intern (intern st ⟨7, [0, 1]⟩).1 ⟨7, [1, 0]⟩).2 ∧
    (intern st ⟨7, [0, 1]⟩).2 = (intern (intern st ⟨7, [0, 1]⟩).1 ⟨7, [0, 1]⟩).2 ∧ Inv st := by
  exact ⟨by decide, by decide,
    intern_inv _ ⟨2, []⟩ (intern_inv _ ⟨1, []⟩ inv_nil (fun _ h => nomatch h)) (fun _ h => nomatch h)⟩

end Osmt.Properties
