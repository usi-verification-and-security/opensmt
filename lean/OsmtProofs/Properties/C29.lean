import OsmtProofs.Smt
import OsmtProofs.Properties.C03
/-!
# C29 — input outside the declared logic is rejected or answered correctly

The statements are those of C01 and C03, deliberately *independent of the declared logic*: the checker's semantics
(`eval`) is that of SMT-LIB for every term it can read — sums of three variables or scaled variables under a
difference logic, Int-sorted symbols under a real-arithmetic logic (integrality is part of `Interp.WF` and of
`constsWellSorted`), and so on.  An answer that these checkers accept is therefore correct whatever the solver assumed
about the shape of its input; an answer they cannot accept on out-of-logic input is reported.
-/
namespace Osmt.Properties
open Osmt

/-- an accepted `unsat` trace refutes the roots in every well-formed interpretation (Int symbols integral) -/
theorem C29_unsat_certified (vm : VarMap) (fuel : Nat) (evs : List Smt.Event) (A : List Lit) (s s' : Smt.State)
    (hrun : Smt.run (Smt.init vm fuel) evs = some s) (hans : Smt.step? s (.answer (.unsat A)) = some s') :
    ¬ ∃ I : Interp, I.WF ∧ (∀ r ∈ s.roots, evalB I r = true) ∧ (∀ l ∈ A, l.eval (inducedAsg vm I) = true) :=
  Smt.unsat_sound vm fuel evs A s s' hrun hans

/-- a validated printed model is a model: the assertions are satisfiable -/
theorem C29_sat_certified (m : Model) (ts : List Term) (h : m.satisfies ts = true) : Sat m.interp ts :=
  (C03_model_satisfies m ts).mp h

/-- non-vacuity: `x + y + z ≤ 1` (three variables, not a difference constraint) is evaluated as written -/
example :
    let x := Term.app (.var 0 .int) []; let y := Term.app (.var 1 .int) []; let z := Term.app (.var 2 .int) []
    let m : Model := { abs := [], defs := [{ id := 0, srt := .int, params := [], body := .app (.num 1) [] },
                                           { id := 1, srt := .int, params := [], body := .app (.num 1) [] },
                                           { id := 2, srt := .int, params := [], body := .app (.num 0) [] }] }
    m.satisfies [.app .leq [.app .plus [x, y, z], .app (.num 1) []]] = false := by decide +kernel

end Osmt.Properties
