import OsmtProofs.Search
-- for `Monoid ℕ` alone: `3 ^ n` in the statements below is Mathlib's power (`Monoid.npow`), as everywhere under Mathlib; without
-- the import it would elaborate to core's `instPowNat`, a different statement.  `OsmtProofs.Search` itself is core-only.
import Mathlib.Algebra.Group.Nat.Defs
/-!
# C30 — the search loop of the default engine cannot run forever inside one restart period (PARTIAL)

`Search.step?` is what `CoreSMTSolver::search` does to its trail (decide, propagate, backjump after a conflict, the same jump caused by
a new theory lemma, restart).  The check replays the
trail events of every run on this machine (every step must be legal), so the theorems speak about the real runs:

* `C30_period_finite`: between two restarts there are fewer than `3^n` trail steps (n = number of SAT variables), whatever
  the clauses, the theories and the heuristics do;
* `C30_run_finite`: with conflict limits that reach `3^n`, a whole run has fewer than `(i0 + 1) * 3^n` steps;
* `C30_restart_needs_limit`: a restart happens only after the conflict limit of its period.

Not proved (named in DESIGN.md): that each single step returns (propagation, conflict analysis, Simplex with its pivoting rule,
congruence closure, array lemma generation, theory combination), that the number of variables stops growing when theories add
atoms during search, the lookahead engines, and that the solver's restart policy reaches `3^n` (it is geometric or Luby: a fact
about floating-point code).  Those are searched for with time limits, which is a test.
-/
namespace Osmt.Properties
open Osmt.Search

theorem C30_period_finite (n : Nat) (lim : Nat → Nat) (xs : List Step) (s s' : St) (hi : Inv n s)
    (hnr : ∀ x ∈ xs, isRestart x = false) (h : run? n lim s xs = some s') : xs.length < 3 ^ n :=
  period_length_bounded n lim xs s s' hi hnr h

theorem C30_run_finite (n : Nat) (lim : Nat → Nat) (i0 : Nat) (hlim : ∀ i, i0 ≤ i → 3 ^ n ≤ lim i)
    (xs : List Step) (s' : St) (h : run? n lim init xs = some s') : xs.length < (i0 + 1) * 3 ^ n :=
  run_length_bounded n lim i0 (hlim i0 (Nat.le_refl i0)) xs s' h

theorem C30_restart_needs_limit (n : Nat) (lim : Nat → Nat) (s s' : St) (k : Nat)
    (h : step? n lim s (.restart k) = some s') : lim s.i ≤ s.c := by
  simp only [step?, Option.ite_none_right_eq_some] at h
  exact h.1.1

/-- non-vacuity: a legal run over 3 variables with a backjump and a restart (limit 1) -/
example : (run? 3 (fun _ => 1) init [.decide 0, .propagate 1, .decide 2, .backjump 2 2, .restart 0, .propagate 1]).isSome = true := by
  decide

end Osmt.Properties
