import OsmtProofs.Status
import OsmtProofs.Pipe
/-!
# C18 — the executable signals every input problem (partial)

What a theorem can carry here is the reporting contract, not the absence of crashes:
* `C18_exit_zero_iff_no_error`: in the exit-status machine (every diagnostic goes through one function that clears the
  status flag, nothing sets it again) the exit status is 0 exactly when no error response was printed, for every run;
* `C18_frames_chunk_independent`: the command frames the pipe reader hands to the parser do not depend on how the input
  bytes arrive (C20's theorem, restated: malformed input is framed deterministically).
Crash freedom, sanitizer cleanliness and termination are searched for by mutation fuzzing on a sanitizer build and are
not proved; the property is claimed as partial.
-/
namespace Osmt.Properties

theorem C18_exit_zero_iff_no_error (evs : List Osmt.Status.Ev) :
    Osmt.Status.exitStatus (Osmt.Status.run evs) = 0 ↔ Osmt.Status.Ev.error ∉ evs := by
  simp [Osmt.Status.exitStatus, Osmt.Status.run, Osmt.Status.foldl_ok]

theorem C18_frames_chunk_independent (s : Osmt.Pipe.St) (c1 c2 : List (List Char)) (h : c1.flatten = c2.flatten) :
    Osmt.Pipe.runChunks s c1 = Osmt.Pipe.runChunks s c2 := Osmt.Pipe.two_chunkings_agree s c1 c2 h

example : Osmt.Status.exitStatus (Osmt.Status.run [.response, .error, .response]) = 1 := by decide

end Osmt.Properties
