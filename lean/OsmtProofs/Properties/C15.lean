import OsmtProofs.Rat
/-!
# C15 — rational arithmetic is exact in both representations

`Osmt/Rat.lean` mirrors `FastRational` branch by branch.  Proved for *all* well-formed operands (both
representations, every word-path branch and every fall-back to GMP):

* addition: exact sum and well-formed result (`C15_add_exact`, `C15_add_wf`) — including the fact that storing
  `gcd(|n|, d)` in a 32-bit word loses nothing (Knuth 4.5.1, `knuth_gcd_dvd`);
* multiplication: exact product and well-formed result (`C15_mul_exact`);
* negation, comparison (`C15_neg_exact`, `C15_compare_exact`);
* the GMP path (`C15_ofRat_exact`), the `gcd` template (`C15_gcdU_eq`);
* canonical representation: equal values ⇒ identical data ⇒ same representation and hash (`C15_canonical`).

`_partial`: subtraction, division, inverse, floor, ceil, floor-division and the in-place variants are mirrored
and tied differentially (≈170 000 boundary cases per run, plus GMP as an independent oracle), but their
exactness theorems are not proved here.

False as stated for the unchanged code (witnesses below): `operator%` on negative word operands.
-/
namespace Osmt.Properties
open Osmt.FR

theorem C15_add_exact (a b : FR) (ha : a.WF) (hb : b.WF) : (add a b).toRat = a.toRat + b.toRat :=
  add_eq_ofRat a b ha hb ▸ (ofRat_sound _).1
theorem C15_add_wf (a b : FR) (ha : a.WF) (hb : b.WF) : (add a b).WF := add_eq_ofRat a b ha hb ▸ (ofRat_sound _).2
theorem C15_mul_exact (a b : FR) (ha : a.WF) (hb : b.WF) : (mul a b).toRat = a.toRat * b.toRat ∧ (mul a b).WF :=
  mul_eq_ofRat a b ha hb ▸ ofRat_sound _
theorem C15_neg_exact (a : FR) (ha : a.WF) : (neg a).toRat = -a.toRat ∧ (neg a).WF :=
  neg_eq_ofRat a ha ▸ ofRat_sound _
theorem C15_compare_exact (a b : FR) (ha : a.WF) (hb : b.WF) :
    (compare a b = -1 ↔ a.toRat < b.toRat) ∧ (compare a b = 1 ↔ a.toRat > b.toRat) ∧
    (compare a b = 0 ↔ a.toRat = b.toRat) :=
  compare_eq a b ha hb ▸ sign_spec a.toRat b.toRat
theorem C15_ofRat_exact (q : Rat) : (ofRat q).toRat = q ∧ (ofRat q).WF := ofRat_sound q
theorem C15_gcdU_eq (a b : Nat) : gcdU a b = Nat.gcd a b := gcdU_eq a b
theorem C15_canonical (a b : FR) (ha : a.WF) (hb : b.WF) (h : a.toRat = b.toRat) : a = b := canonical a b ha hb h

/-- results do not depend on the representation of the operands: any two well-formed operands with the same
values give identical results -/
theorem C15_add_representation_independent (a a' b b' : FR) (ha : a.WF) (ha' : a'.WF) (hb : b.WF) (hb' : b'.WF)
    (h1 : a.toRat = a'.toRat) (h2 : b.toRat = b'.toRat) : add a b = add a' b' := by
  rw [canonical a a' ha ha' h1, canonical b b' hb hb' h2]

/-- `operator%` word path is not the floor remainder: `-7 % 4` gives 3 (GMP path: 1) -/
theorem C15_mod_word_path_wrong : modWord (-7) 4 = 3 ∧ Int.fmod (-7) 4 = 1 := by decide
/-- the signed `gcd` template returns a negative "gcd" (word path before the fix) -/
theorem C15_gcd_signed_wrong : gcdSigned 4 (-6) = -2 := by decide

/-! Non-vacuity: the general branch (both gcd reductions) and an overflow to GMP. -/
example : add (.word 1 6) (.word 1 10) = .word 4 15 := by decide +kernel
example : add (.word 2147483647 1) (.word 1 1) = .big 2147483648 1 := by decide +kernel
example : (FR.word 1 6).WF := ⟨by decide, by decide, by decide, by decide, by decide⟩

end Osmt.Properties
