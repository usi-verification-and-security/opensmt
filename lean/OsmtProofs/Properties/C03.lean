import Osmt.Model
import OsmtProofs.Eval
/-!
# C03 — models produced after sat satisfy every current assertion

The printed model is read as a `Model` (definitions with bodies) and *denotes* the interpretation
`Model.interp`; `Model.satisfies` evaluates assertions with `eval`, which is the SMT-LIB semantics used by all
other theorems.  `C03_model_satisfies` says that the executable check is exactly `Sat`.  The value of this file
is that the evaluator is the specification; the tie evaluates every assertion of every sat answer.
Abstracted (validated per run, not proved): how Egraph / Simplex / STP values are extracted.
-/
namespace Osmt.Properties
open Osmt

theorem C03_model_satisfies (m : Model) (ts : List Term) :
    m.satisfies ts = true ↔ Sat m.interp ts := by
  simp [Model.satisfies, Sat, List.all_eq_true]

/-- the evaluator is compositional: conjunction -/
theorem C03_eval_and (I : Interp) (ts : List Term) :
    evalB I (.app .and ts) = ts.all (evalB I) := evalB_and I ts

/-- the evaluator is compositional: if-then-else -/
theorem C03_eval_ite (I : Interp) (c a b : Term) :
    eval I (.app .ite [c, a, b]) = if evalB I c then eval I a else eval I b := eval_ite I c a b

/-! Non-vacuity: the model `x ↦ 3` satisfies `x ≤ 4` and falsifies `x ≤ 2`. -/
def mX : Term := .app (.var 0 .int) []
def mModel : Model := { abs := [], defs := [{ id := 0, srt := .int, params := [], body := .app (.num 3) [] }] }
example : mModel.satisfies [.app .leq [mX, .app (.num 4) []]] = true := by decide +kernel
example : mModel.satisfies [.app .leq [mX, .app (.num 2) []]] = false := by decide +kernel
example : mModel.constsWellSorted = true := by decide +kernel

end Osmt.Properties
