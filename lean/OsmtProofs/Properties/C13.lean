import OsmtProofs.Rewrite
import OsmtProofs.IntRound
/-!
# C13 — preprocessing preserves satisfiability and models

The rewrites applied between assertion and search, as functions on terms, for every term and interpretation:
* substitution of keys by targets of the same value keeps the value of every term (`C13_subst_eval`);
* eliminating a variable by a definition it does not occur in is a conservative extension, in both directions
  (`C13_subst_equiv`): models of the rewritten formula extend to models of the original one that satisfy the
  equation, and models of the original formula and the equation are models of the rewritten one — this is also what
  makes model reconstruction (evaluate the definition) correct;
* `distinct` expansion and the split of numeric equalities keep the value (`C13_distinct_expand`, `C13_eq_split`);
* the definitions introduced for `div`/`mod` and for term-level `ite` hold exactly when the auxiliary symbols have
  the value of the term they stand for, so they constrain nothing but the fresh symbols
  (`C13_divmod_axioms`, `C13_ite_definition`);
* Boolean flattening of nested conjunctions / disjunctions keeps the value (`C13_flatten_and`, `C13_flatten_or`), and the
  transitivity fact learnt from a full diamond of equalities is valid (`C13_transitivity_fact_valid`).
What ties these to the code is the per-check comparison of asserted formulas and engine roots (tools/checks/c13.py).
-/
namespace Osmt.Properties
open Osmt Osmt.Rewrite

theorem C13_subst_eval (I : Interp) (σ : List (Term × Term)) (hσ : ∀ e ∈ σ, eval I e.1 = eval I e.2) (t : Term) :
    eval I (subst σ t) = eval I t := subst_eval I σ hσ t

theorem C13_subst_equiv (I : Interp) (id : Nat) (s : Srt) (tgt f : Term) (hocc : occurs id s tgt = false) :
    (evalB I (substVar id s tgt f) = true →
      evalB (setVar I id s (eval I tgt)) f = true ∧
      eval (setVar I id s (eval I tgt)) (.app (.var id s) []) = eval (setVar I id s (eval I tgt)) tgt) ∧
    (eval I (.app (.var id s) []) = eval I tgt → evalB I f = true → evalB I (substVar id s tgt f) = true) := by
  have hf := substVar_eval I id s tgt f
  refine ⟨fun h => ⟨?_, ?_⟩, fun heq h => ?_⟩
  · rw [evalB, hf]; exact h
  · rw [eval_setVar I id s _ tgt hocc]; exact eval_setVar_self ..
  · -- the equation says that extending `I` by the definition's value changes nothing
    rw [← heq, eval_var, setVar_self] at hf
    rw [evalB, ← hf]; exact h

theorem C13_extension_wf (I : Interp) (hI : I.WF) (id : Nat) (s : Srt) (v : Val) (hv : v.hasSort s = true) :
    (setVar I id s v).WF := by
  refine ⟨fun i s' => ?_, hI.2⟩
  show (if i = id ∧ s' = s then v else I.var i s').hasSort s' = true
  split
  · rename_i hc; rw [hc.2]; exact hv
  · exact hI.1 i s'

theorem C13_distinct_expand (I : Interp) (args : List Term) :
    eval I (expandDistinct args) = eval I (.app .distinct args) := by
  have h : evalB I (expandDistinct args) = pairwiseDistinct (evalList I args) := by
    rw [expandDistinct, evalB_and, pairsNe_all, evalList_eq_map]
  exact congrArg Val.b h

theorem C13_eq_split (I : Interp) (a b : Term) (x y : Rat) (ha : eval I a = .n x) (hb : eval I b = .n y) :
    eval I (splitEq a b) = eval I (.app .eq [a, b]) := by
  have h : evalB I (splitEq a b) = evalB I (.app .eq [a, b]) := by
    rw [splitEq, evalB_and, evalB_eq, List.all_cons, List.all_cons, List.all_nil, Bool.and_true, evalB_leq, evalB_leq, ha, hb,
      ← Bool.decide_and]
    exact decide_eq_decide.mpr (le_antisymm_iff.symm.trans (Val.n.injEq x y).symm.to_iff)
  exact congrArg Val.b h

theorem C13_divmod_axioms (I : Interp) (q r a : Term) (d qi ri ai : Int) (hd : d ≠ 0)
    (hq : eval I q = .n qi) (hr : eval I r = .n ri) (ha : eval I a = .n ai) :
    evalB I (divModDef q r a d) = true ↔ (qi = ai / d ∧ ri = ai % d) := by
  rw [← Osmt.IntRound.divmod_def ai d qi ri hd, divModDef, evalB_and]
  simp only [List.all_cons, List.all_nil, Bool.and_true, Bool.and_eq_true, evalB_eq, evalB_leq, decide_eq_true_eq]
  -- the three conjuncts, with the numerals and the sum and product of two arguments evaluated
  show eval I a = .n ((d : Rat) * ((eval I q).toRat * 1) + ((eval I r).toRat + 0)) ∧ (0 : Rat) ≤ (eval I r).toRat ∧
    (eval I r).toRat ≤ (((d.natAbs : Int) - 1 : Int) : Rat) ↔ _
  have hq' : (eval I q).toRat = qi := congrArg Val.toRat hq
  have hr' : (eval I r).toRat = ri := congrArg Val.toRat hr
  rw [ha, hq', hr', Val.n.injEq, mul_one, add_zero, Int.natCast_natAbs, ← Rat.intCast_mul, ← Rat.intCast_add,
    Rat.intCast_inj, Rat.intCast_nonneg, Rat.intCast_le_intCast]

theorem C13_ite_definition (I : Interp) (v c a b : Term) (x : Bool) (hc : eval I c = .b x) :
    evalB I (iteDef v c a b) = true ↔ eval I v = eval I (.app .ite [c, a, b]) := by
  simp only [iteDef, evalB_and, evalB_or, evalB_not, evalB_eq, eval_ite, List.all_cons, List.all_nil, List.any_cons, List.any_nil]
  cases evalB I c <;> simp

theorem C13_flatten_and (I : Interp) (args : List Term) : eval I (flatten .and args) = eval I (.app .and args) :=
  congrArg Val.b (flattenArgs_fold I .and (· && ·) (List.all · Val.toBool) (fun _ => rfl) (fun _ _ => List.all_append)
    (fun _ _ => rfl) args)
theorem C13_flatten_or (I : Interp) (args : List Term) : eval I (flatten .or args) = eval I (.app .or args) :=
  congrArg Val.b (flattenArgs_fold I .or (· || ·) (List.any · Val.toBool) (fun _ => rfl) (fun _ _ => List.any_append)
    (fun _ _ => rfl) args)

/-- the fact learnt from a full diamond of equalities is valid in every interpretation -/
theorem C13_transitivity_fact_valid (I : Interp) (x y1 y2 z : Term) : evalB I (diamondFact x y1 y2 z) = true := by
  have imp : ∀ p q : Bool, (p = true → q = true) → (!p || q) = true := by decide
  simp only [diamondFact, evalB_or, evalB_not, evalB_and, evalB_eq, List.any_cons, List.any_nil, List.all_cons, List.all_nil,
    Bool.and_true, Bool.or_false]
  apply imp
  simp only [Bool.or_eq_true, Bool.and_eq_true, decide_eq_true_eq]
  rintro (⟨h1, h2⟩ | ⟨h1, h2⟩) <;> exact h1.trans h2

/-- non-vacuity: eliminating `x := y + 1` from `x ≤ 3` gives `y + 1 ≤ 3`, and `x` does not occur in `y + 1` -/
example :
    let x := Term.app (.var 0 .int) []
    let y := Term.app (.var 1 .int) []
    let tgt := Term.app .plus [y, .app (.num 1) []]
    substVar 0 .int tgt (.app .leq [x, .app (.num 3) []]) = .app .leq [tgt, .app (.num 3) []] ∧ occurs 0 .int tgt = false := by
  decide +kernel

end Osmt.Properties
