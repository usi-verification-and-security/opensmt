import OsmtProofs.Names
/-!
# C21 — names and definitions follow the assertion-stack scopes

Mirror of `TermNames` + `ScopedVector`.  For every operation sequence (inserts, pushes, pops, switches of the
global-declarations mode): names are pairwise distinct and the name map holds exactly the pairs of the scoped
vector (`C21_consistent`, `C21_lookup_iff_scoped`).  For every balanced sequence of scope operations between a
`pushScope` and its `popScope` (non-global mode) the vector and the limits are restored exactly
(`C21_pop_restores`): the names introduced inside are gone and can be introduced again.  In global mode a pop
keeps every name (`C21_global_pop_keeps`) and the stack of limits still follows the assertion stack
(`C21_limits_follow_stack`).  `define-fun` scoping (`Interpret::DefinedFunctions`) and the use of names by
unsat cores / assignments are checked end to end only.
-/
namespace Osmt.Properties
open Osmt.Names

theorem C21_consistent (ops : List Op) : Inv (run ops) := run_inv ops
theorem C21_lookup_iff_scoped (ops : List Op) (n t : Nat) :
    lookup (run ops) n = some t ↔ (n, t) ∈ (run ops).elems := by
  obtain ⟨_, h2, h3⟩ := run_inv ops
  rw [lookup_some_iff _ h2, h3]
theorem C21_pop_restores (s : St) (ops : List Op) (hg : s.global = false) (hb : bal 0 ops = true) :
    (popScope (ops.foldl step (pushScope s))).elems = s.elems ∧
    (popScope (ops.foldl step (pushScope s))).limits = s.limits := by
  -- the balanced block keeps `s.elems` as a prefix and ends with the pushed limit on top; the pop cuts there
  obtain ⟨h1, h2, h3⟩ := balanced_preserves_base s.elems (s.limits ++ [s.elems.length]) ops (pushScope s) []
    hg List.prefix_rfl (List.append_nil _).symm (fun _ h => nomatch h) hb
  constructor
  · rw [popScope_elems _ s.elems.length h3 (by rw [h2, List.getLast?_concat])]
    exact (List.prefix_iff_eq_take.1 h1).symm
  · rw [popScope_limits, h2, List.dropLast_concat]
theorem C21_global_pop_keeps (s : St) (h : s.global = true) :
    (popScope s).elems = s.elems ∧ (popScope s).n2t = s.n2t ∧ (popScope s).limits = s.limits.dropLast := by
  simp [popScope, h]
theorem C21_limits_follow_stack (s : St) (h : s.limits ≠ []) :
    (pushScope s).limits.length = s.limits.length + 1 ∧ (popScope s).limits.length = s.limits.length - 1 :=
  ⟨List.length_append, by rw [popScope_limits, List.length_dropLast]⟩

example : lookup (run [.insert 1 10, .push, .insert 2 11, .pop]) 2 = none := by decide
example : lookup (run [.insert 1 10, .push, .insert 2 11, .pop, .insert 2 12]) 2 = some 12 := by decide
example : lookup (run [.setGlobal true, .push, .insert 2 11, .pop]) 2 = some 11 := by decide
example : (run [.setGlobal true, .push, .setGlobal false, .pop]).limits = [] := by decide

end Osmt.Properties
