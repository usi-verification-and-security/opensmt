import OsmtProofs.Smt
/-!
# C01 — an `unsat` answer is never given for a satisfiable assertion set (engine level)

Full statement of the property: whenever check-sat answers unsat, the conjunction of the assertions on the
stack is unsatisfiable in the declared logic.  What is proved here, for *every* event sequence the machine
accepts (any engine, heuristic, restart policy, seed, SatELite on or off, incremental or not):
the root formulas handed to the engine for the enabled frames are jointly unsatisfiable.
The remaining links to the user's assertions are: roots ↔ assertions (C13, validated per run) and
text ↔ terms (C14/C16).  The frame-literal step is `frames_unsat` below.
-/
namespace Osmt.Properties
open Osmt

theorem C01_unsat_sound (vm : VarMap) (fuel : Nat) (evs : List Smt.Event) (A : List Lit) (s s' : Smt.State)
    (hrun : Smt.run (Smt.init vm fuel) evs = some s) (hans : Smt.step? s (.answer (.unsat A)) = some s') :
    ¬ ∃ I : Interp, I.WF ∧ (∀ r ∈ s.roots, evalB I r = true) ∧ (∀ l ∈ A, l.eval (inducedAsg vm I) = true) :=
  Smt.unsat_sound vm fuel evs A s s' hrun hans

/-- Corollary in the vocabulary of `Sem`: with no assumptions (single query, no frames) the roots are
unsatisfiable. -/
theorem C01_unsat_roots (vm : VarMap) (fuel : Nat) (evs : List Smt.Event) (s s' : Smt.State)
    (hrun : Smt.run (Smt.init vm fuel) evs = some s) (hans : Smt.step? s (.answer (.unsat [])) = some s') :
    Unsat s.roots := by
  rintro ⟨I, hI, hsat⟩
  exact Smt.unsat_sound vm fuel evs [] s s' hrun hans ⟨I, hI, hsat, by simp⟩

/-! Non-vacuity: a concrete run (`b`, `¬b` as two roots) is accepted and answers unsat. -/
def exB : Term := .app (.var 0 .bool) []
def exVm : VarMap := fun v => if v = 0 then some exB else none
def exEvents : List Smt.Event :=
  [.input exB [⟨0, false⟩], .input (.app .not [exB]) [⟨0, true⟩]]

example : ((Smt.run (Smt.init exVm 3) exEvents).bind (fun s => Smt.step? s (.answer (.unsat [])))).isSome = true := by
  decide

end Osmt.Properties
