import OsmtProofs.Itp
import OsmtProofs.ItpPath
import OsmtProofs.LA
import OsmtProofs.Smt
/-!
# C08 / C09 — interpolants

Four layers.
1. `C08_certified_split` / `C09_path_from_splits`: what the per-run certification establishes.  The check re-decides, for every
   printed interpolant `I` of a split (A, B), the sets `A ∪ {¬I}` and `{I} ∪ B` (and for sequences `{I_j} ∪ G ∪ {¬I_{j+1}}`);
   an `unsat` verdict is accepted only when the Lean machine accepts the trace of that run, which by `Smt.unsat_sound`
   makes the set unsatisfiable.  These theorems unfold two such facts into Craig's conditions.
2. `C08_labelled_interpolation_sound` (+ `_symbols`): for every resolution refutation over A ∪ B (leaves from A, from B, and
   theory lemmas that come with a partial interpolant satisfying the two leaf conditions, `Node.leafT`) and every labelling
   (McMillan, Pudlák, McMillan', proof-sensitive variants are instances), the root partial interpolant is implied by A,
   inconsistent with B, and over shared variables.  All proofs, all labellings.
3. `C08_farkas_interpolant` / `C08_farkas_dual_interpolant`: for LRA conflicts, the weighted sum of the A-part of a Farkas
   refutation (resp. the negated sum of the B-part) is an interpolant, for all weights.
4. `C09_labelled_path_step`: for one refutation labelled for two consecutive cuts (A₁ | G ∪ B₂) and (A₁ ∪ G | B₂) whose occurrence
   labels fit together (`Itp.pairOK`: McMillan, Pudlák, McMillan' applied to both cuts do), I₁ ∧ G ⊨ I₂ — the path property, for
   every refutation and every such labelling.
Layers 2, 3 and 4 are theorems about the model of the algorithms; layer 1 is what ties each run to the semantics.
-/
namespace Osmt.Properties
open Osmt

/-- a refutation of `Γ ∪ {¬J}` says that `Γ` entails `J` -/
theorem entails_of_unsat_not (Γ : List Term) (J : Term) (h : Unsat (Γ ++ [.app .not [J]])) (M : Interp) (hM : M.WF)
    (hΓ : Sat M Γ) : evalB M J = true := by
  refine Classical.byContradiction fun hJ => h ⟨M, hM, fun t ht => ?_⟩
  rcases List.mem_append.mp ht with h | h
  · exact hΓ t h
  · rw [List.mem_singleton.mp h, evalB_not, (Bool.not_eq_true _).mp hJ]; rfl

/-- two certified refutations are exactly Craig's two semantic conditions -/
theorem C08_certified_split (A B : List Term) (I : Term)
    (h1 : Unsat (A ++ [.app .not [I]])) (h2 : Unsat (I :: B)) :
    (∀ M : Interp, M.WF → Sat M A → evalB M I = true) ∧ (¬ ∃ M : Interp, M.WF ∧ evalB M I = true ∧ Sat M B) :=
  ⟨entails_of_unsat_not A I h1, fun ⟨M, hM, hI, hB⟩ => h2 ⟨M, hM, List.forall_mem_cons.mpr ⟨hI, hB⟩⟩⟩

/-- a certified refutation of `I_j ∧ G ∧ ¬I_{j+1}` is the step condition of a sequence interpolant -/
theorem C09_path_from_splits (G : List Term) (I J : Term) (h : Unsat (I :: G ++ [.app .not [J]])) :
    ∀ M : Interp, M.WF → evalB M I = true → Sat M G → evalB M J = true :=
  fun M hM hI hG => entails_of_unsat_not (I :: G) J h M hM (List.forall_mem_cons.mpr ⟨hI, hG⟩)

theorem C08_labelled_interpolation_sound (A B : Itp.Asg → Prop) (n : Itp.Node) (h : n.WF A B) (hempty : n.clause = []) :
    (∀ σ, A σ → n.itp.eval σ = true) ∧ (∀ σ, B σ → n.itp.eval σ = false) := Itp.root_interpolant A B n h hempty

/-- the form the mirror uses: the executable structural check plus the leaves following from their sides -/
theorem C08_checked_refutation_interpolant (A B : Itp.Asg → Prop) (n : Itp.Node) (hs : n.structOk = true) (hl : n.leavesOk A B)
    (hempty : n.clause = []) :
    (∀ σ, A σ → n.itp.eval σ = true) ∧ (∀ σ, B σ → n.itp.eval σ = false) :=
  Itp.root_interpolant A B n (Itp.wf_of_structOk A B n hs hl) hempty

theorem C08_labelled_interpolation_symbols (A B : Itp.Asg → Prop) (inA inB : Itp.Var → Bool) (n : Itp.Node)
    (h : n.WF A B) (hf : n.Faithful inA inB) : ∀ v ∈ n.itp.vars, inA v = true ∧ inB v = true :=
  Itp.itp_vars_shared A B inA inB n h hf

/-- the weighted sum of the A-part: implied by A -/
theorem C08_farkas_interpolant (x : Term → Rat) (csA : List (LA.Ineq × Rat))
    (hpos : ∀ ik ∈ csA, 0 ≤ ik.2) (hA : ∀ ik ∈ csA, ik.1.holds x) :
    let r := LA.combine csA
    LA.Ineq.holds x ⟨⟨r.1, r.2.1⟩, r.2.2⟩ := LA.combine_holds x csA hpos hA

/-- ... and inconsistent with B whenever the sum together with the B-part is a Farkas refutation -/
theorem C08_farkas_interpolant_B (csA csB : List (LA.Ineq × Rat))
    (h : LA.farkasCheck ((⟨⟨(LA.combine csA).1, (LA.combine csA).2.1⟩, (LA.combine csA).2.2⟩, 1) :: csB) = true) :
    ¬ ∃ x : Term → Rat, LA.Ineq.holds x ⟨⟨(LA.combine csA).1, (LA.combine csA).2.1⟩, (LA.combine csA).2.2⟩ ∧
      ∀ ik ∈ csB, ik.1.holds x :=
  fun ⟨x, hI, hB⟩ => LA.farkas_sound _ h ⟨x, List.forall_mem_cons.mpr ⟨hI, hB⟩⟩

/-- dual (weak) interpolant: a Farkas refutation of A ∪ B shows that A excludes every point where all of B holds -/
theorem C08_farkas_dual_interpolant (csA csB : List (LA.Ineq × Rat)) (h : LA.farkasCheck (csA ++ csB) = true)
    (x : Term → Rat) (hA : ∀ ik ∈ csA, ik.1.holds x) : ¬ ∀ ik ∈ csB, ik.1.holds x :=
  fun hB => LA.farkas_sound _ h ⟨x, List.forall_mem_append.mpr ⟨hA, hB⟩⟩

/-- non-vacuity: the refutation of A = {p}, B = {¬p}, labelled in McMillan's style (shared variable labelled b) -/
example :
    let lab : Itp.Var → Itp.Lbl := fun _ => ⟨false, true⟩
    let n := Itp.Node.res (.leafA [⟨0, false⟩] lab) (.leafB [⟨0, true⟩] lab) 0
    n.clause = [] ∧ n.itp.eval (fun _ => true) = true ∧ n.itp.eval (fun _ => false) = false := by decide

/-- non-vacuity with a theory lemma: atom 0 stands for x ≤ 0, atom 1 for x ≥ 1, the assignments of interest satisfy the lemma
¬0 ∨ ¬1; A = {0}, B = {1}; the lemma's partial interpolant is the A-literal 0, and so is the root interpolant -/
example :
    let T : Itp.Asg → Prop := fun σ => ¬ (σ 0 = true ∧ σ 1 = true)
    let lab : Itp.Var → Itp.Lbl := fun v => if v = 0 then ⟨true, false⟩ else ⟨false, true⟩
    let n := Itp.Node.res (.leafB [⟨1, false⟩] lab)
      (.res (.leafA [⟨0, false⟩] lab) (.leafT [⟨0, true⟩, ⟨1, true⟩] lab (.lit ⟨0, false⟩)) 0) 1
    n.structOk = true ∧ n.clause = [] ∧ n.leavesOk (fun σ => T σ ∧ σ 0 = true) (fun σ => T σ ∧ σ 1 = true) := by
  refine ⟨by decide, by decide, ?_⟩
  simp only [Itp.Node.leavesOk]
  refine ⟨?_, ?_, ?_, ?_⟩
  · intro σ h; simp [Itp.cEval, Itp.Lit.eval, h.2]
  · intro σ h; simp [Itp.cEval, Itp.Lit.eval, h.2]
  · intro σ h _; simp [Itp.F.eval, Itp.Lit.eval, h.2]
  · intro σ h _
    have := h.1
    simp [h.2] at this
    simp [Itp.F.eval, Itp.Lit.eval, this]

/-- **C09, algorithm level.**  Sequence interpolants computed from one refutation by a labelled interpolation system with fitting
labels satisfy the path condition between consecutive cuts: I_j together with the middle group implies I_{j+1}. -/
theorem C09_labelled_path_step (G : Itp.Asg → Prop) (n : Itp.Node2) (hl : n.labelsOK = true) (hs : n.proj1.structOk = true)
    (hm : n.middleOk G) (hempty : n.proj1.clause = []) :
    ∀ σ, G σ → n.proj1.itp.eval σ = true → n.proj2.itp.eval σ = true :=
  Itp.path_step G n hl hs hm hempty

/-- **C09, Farkas leaves.**  For an arithmetic conflict whose constraints are split A₁ | G | B₂, the interpolant of the second cut
(the weighted sum over A₁ ∪ G) follows from the interpolant of the first cut (the weighted sum over A₁) and the constraints of G. -/
theorem C09_farkas_path_leaf (x : Term → Rat) (csA1 csG : List (LA.Ineq × Rat))
    (hpos : ∀ ik ∈ csG, 0 ≤ ik.2) (hG : ∀ ik ∈ csG, ik.1.holds x) (hI1 : LA.combHolds x (LA.combine csA1)) :
    LA.combHolds x (LA.combine (csG ++ csA1)) :=
  LA.combine_extend x csG csA1 hpos hG hI1

/-- non-vacuity: A₁ = {0 ≤ x}, G = {0 ≤ y - x} at the point x = y = 0: the hypotheses hold -/
example :
    let X : Term := .app (.var 0 .real) []
    let Y : Term := .app (.var 1 .real) []
    let pt : Term → Rat := fun _ => 0
    let csA1 : List (LA.Ineq × Rat) := [(⟨⟨[(X, 1)], 0⟩, false⟩, 1)]
    let csG : List (LA.Ineq × Rat) := [(⟨⟨[(Y, 1), (X, -1)], 0⟩, false⟩, 1)]
    (∀ ik ∈ csG, 0 ≤ ik.2) ∧ (∀ ik ∈ csG, ik.1.holds pt) ∧ LA.combHolds pt (LA.combine csA1) := by
  simp [LA.Ineq.holds, LA.Lin.eval, LA.Poly.eval, LA.combHolds, LA.combine, LA.Poly.addScaled, LA.Poly.add1]

/-- non-vacuity: groups {p}, {¬p ∨ q}, {¬q}; McMillan's labels for both cuts; I₁ = p, I₂ = q -/
example :
    let l1 : Itp.Labs := [(0, ⟨false, true⟩, ⟨true, false⟩)]
    let l2 : Itp.Labs := [(0, ⟨false, true⟩, ⟨true, false⟩), (1, ⟨false, true⟩, ⟨false, true⟩)]
    let l3 : Itp.Labs := [(1, ⟨false, true⟩, ⟨false, true⟩)]
    let n := Itp.Node2.res (.res (.leaf [⟨0, false⟩] .first l1) (.leaf [⟨0, true⟩, ⟨1, false⟩] .middle l2) 0)
      (.leaf [⟨1, true⟩] .last l3) 1
    n.labelsOK = true ∧ n.proj1.structOk = true ∧ n.proj1.clause = [] ∧
      (∀ a b : Bool, n.proj1.itp.eval (fun v => if v = 0 then a else b) = a ∧
        n.proj2.itp.eval (fun v => if v = 0 then a else b) = b) := by decide

end Osmt.Properties
