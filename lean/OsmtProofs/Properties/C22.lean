import OsmtProofs.LA
import OsmtProofs.EUF
/-!
# C22 — theory-solver verdicts depend only on the asserted literals

What is decided about a verdict is decided from the literals asserted at that moment alone, by the kernels:
* a reported inconsistency `C` is accepted when the clause of its negated literals passes `laClauseCheck` / `eufClauseCheck`,
  which makes the literals of `C` jointly unsatisfiable in every well-formed interpretation (`C22_conflict_certified`);
  that `C` is a subset of the currently asserted literals is checked on the operation sequence;
* a `consistent` verdict of a complete check is refuted when the clause of the negated asserted literals passes a kernel:
  then no interpretation satisfies the asserted literals (`C22_consistency_refuted`) and the verdict was wrong.
History enters nowhere: retracted literals are not in the clause.  Abstracted: completeness of the refutation search
(certificates come from untrusted producers; a missing certificate leaves a `consistent` verdict unconfirmed).
-/
namespace Osmt.Properties
open Osmt

/-- literals `(atom, sign)` as asserted: `sign = true` means the atom is asserted true -/
def assertedHold (I : Interp) (lits : List (Term × Bool)) : Prop := ∀ l ∈ lits, evalB I l.1 = l.2

/-- the clause of the negated literals of an asserted set `lits` is `lits` itself read as clause literals `(atom, negated?)` -/
theorem C22_conflict_certified (lits : List (Term × Bool)) (cert : LA.Cert)
    (h : LA.laClauseCheck lits cert = true) (I : Interp) (hI : I.WF) : ¬ assertedHold I lits :=
  exists_lit_true_iff.mp (LA.laClauseCheck_sound lits cert h I hI)

theorem C22_consistency_refuted (lits : List (Term × Bool)) (steps : List EUF.Step) (goal : Nat)
    (h : EUF.eufClauseCheck lits steps goal = true) (I : Interp) (hI : I.WF) : ¬ assertedHold I lits :=
  exists_lit_true_iff.mp (EUF.eufClauseCheck_sound lits steps goal h I hI)

end Osmt.Properties
