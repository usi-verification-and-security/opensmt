import OsmtProofs.Conc
/-!
# C25 — an asynchronous stop never produces a wrong answer (partial)

The restart loop looks at the stop flags before every round.  For every search behaviour, every moment at which the request
becomes visible and every bound on the rounds, the stopped run answers `unknown` or exactly what the run without the request
answers (`C25_stop_unknown_or_same`); a request visible before the first round gives `unknown` (`C25_stop_before_start`).
So a stop cannot create a definitive answer; whether definitive answers are right is C01/C02.  That the request is free of
data races and crashes is searched for with ThreadSanitizer, with requests issued at random moments of real runs; it is
not a theorem.
-/
namespace Osmt.Properties
open Osmt.Conc

theorem C25_stop_unknown_or_same (search : Nat → Option Ans) (j fuel k : Nat) :
    solveLoop search (some j) fuel k = .unknown ∨ solveLoop search (some j) fuel k = solveLoop search none fuel k :=
  solveLoop_later search j none (fun _ h => nomatch h) fuel k

theorem C25_stop_before_start (search : Nat → Option Ans) (fuel : Nat) : solveLoop search (some 0) fuel 0 = .unknown :=
  stop_undecided_unknown search 0 fuel 0 (fun _ _ h => nomatch h)

/-- a definitive answer of a stopped run is the answer of the undisturbed run -/
theorem C25_definitive_same (search : Nat → Option Ans) (j fuel k : Nat) (a : Ans) (ha : a ≠ .unknown)
    (h : solveLoop search (some j) fuel k = a) : solveLoop search none fuel k = a :=
  (C25_stop_unknown_or_same search j fuel k).elim (fun hu => absurd (h ▸ hu) ha) (fun hs => hs ▸ h)
/-- a request seen from round `j` on gives `unknown` when no earlier round decides -/
theorem C25_undecided_unknown (search : Nat → Option Ans) (j fuel k : Nat)
    (hund : ∀ i, k ≤ i → i < j → search i = none) : solveLoop search (some j) fuel k = .unknown :=
  stop_undecided_unknown search j fuel k hund
/-- a later request disturbs no more than an earlier one -/
theorem C25_later_same (search : Nat → Option Ans) (j j' fuel k : Nat) (hjj : j ≤ j') (a : Ans) (ha : a ≠ .unknown)
    (h : solveLoop search (some j) fuel k = a) : solveLoop search (some j') fuel k = a :=
  (solveLoop_later search j (some j') (fun _ e => Option.some.inj e ▸ hjj) fuel k).elim
    (fun hu => absurd (h ▸ hu) ha) (fun hs => hs ▸ h)

/-- the two-level loop (`solve_` over `search`, the flags polled before every round and in every iteration after
    `propagate`): a request that becomes visible at any poll of any round gives unknown or the undisturbed answer -/
theorem C25_two_level_unknown_or_same (iter : Nat → Nat → Option Ans) (s : Nat × Nat) (budget : Nat → Nat) (F k : Nat) :
    solve2 iter (some s) budget F k = .unknown ∨ solve2 iter (some s) budget F k = solve2 iter none budget F k :=
  solve2_later (by simp) iter budget F k

/-- the theorem is not vacuous and not insensitive: a loop that, on seeing the request, goes on at level 0 and takes a
    pending conflict for a level-0 conflict (the seeded change `C25-stop-midloop-cancel`) answers unsat where the
    undisturbed loop answers sat -/
example : innerBroken (fun _ i => if i = 5 then some .sat else none) (fun _ _ => true) (some (0, 2)) 0 10 0 = some .unsat ∧
          inner (fun _ i => if i = 5 then some .sat else none) none 0 10 0 = some .sat := by decide

example : solve2 (fun _ i => if i = 5 then some .sat else none) (some (0, 2)) (fun _ => 10) 3 0 = .unknown ∧
          solve2 (fun _ i => if i = 5 then some .sat else none) (some (0, 7)) (fun _ => 10) 3 0 = .sat := by decide

example : solveLoop (fun k => if k = 3 then some .unsat else none) (some 5) 10 0 = .unsat ∧
          solveLoop (fun k => if k = 3 then some .unsat else none) (some 2) 10 0 = .unknown := by decide

end Osmt.Properties
