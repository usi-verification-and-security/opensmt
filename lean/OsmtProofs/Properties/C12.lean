import OsmtProofs.Smt
/-!
# C12 — every clause the SAT engine learns is implied by known clauses

For every event sequence accepted by the machine (each `learn` event passes `rupCheck` against the database
at that moment), every database clause is a propositional consequence of the axioms (input + theory
clauses) — and the acceptance test *is* reverse unit propagation, which is what the property asks for.
-/
namespace Osmt.Properties
open Osmt

/-- RUP soundness: a clause confirmed by reverse unit propagation from `db` holds in every model of `db`. -/
theorem C12_rup_sound (fuel : Nat) (db : List Clause) (c : Clause) (h : rupCheck fuel db c = true) :
    ∀ σ, satisfies σ db → Clause.eval σ c = true := rup_sound h

/-- Every reachable database is implied by the axioms, for all accepted event sequences. -/
theorem C12_learnt_implied (s0 : Smt.State) (evs : List Smt.Event) (s : Smt.State)
    (hrun : Smt.run s0 evs = some s) (h0 : Cdcl.Inv s0.core) :
    ∀ σ, satisfies σ s.core.axioms → satisfies σ s.core.db :=
  Smt.learnt_implied s0 evs s hrun h0

/-- a learnt clause is accepted only if it is RUP at that moment -/
theorem C12_learn_accepts_only_rup (s s' : Cdcl.State) (c : Clause) (h : Cdcl.step? s (.learn c) = some s') :
    rupCheck s.fuel s.db c = true := (Cdcl.step?_some h).1

/-! Non-vacuity: from `(a ∨ b)`, `(¬a ∨ b)` the unit `b` is accepted as learnt; `¬b` is not. -/
example : (Cdcl.run { fuel := 4 } [.axiom_ [⟨0, false⟩, ⟨1, false⟩], .axiom_ [⟨0, true⟩, ⟨1, false⟩],
    .learn [⟨1, false⟩]]).isSome = true := by decide
example : (Cdcl.run { fuel := 4 } [.axiom_ [⟨0, false⟩, ⟨1, false⟩], .axiom_ [⟨0, true⟩, ⟨1, false⟩],
    .learn [⟨1, true⟩]]).isSome = false := by decide

end Osmt.Properties
