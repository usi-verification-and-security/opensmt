import OsmtProofs.Smt
/-!
# C11 — every theory clause used in search is valid in the theory

A theory clause is accepted by the machine only with a certificate checked by a kernel.  Soundness of each
kernel, for all clauses and certificates: an accepted clause has a true literal in *every* well-formed
interpretation (integers for `Int` symbols; arbitrary functions for uninterpreted symbols; foreign subterms
as unknowns), independently of any asserted formula.
Kernels: linear arithmetic over ℚ and ℤ (Farkas combination, integer tightening, disequality splits — this
covers conflicts, propagation reasons, branch-and-bound / cut splits, interface trichotomy clauses and
difference-logic cycles) and EUF (explicit equational proofs with congruence).
Not covered by a kernel (named, not claimed): array lemmas.
-/
namespace Osmt.Properties
open Osmt

theorem C11_la_clause_valid (lits : List (Term × Bool)) (cert : LA.Cert)
    (h : LA.laClauseCheck lits cert = true) (I : Interp) (hI : I.WF) : ∃ l ∈ lits, evalB I l.1 = !l.2 :=
  LA.laClauseCheck_sound lits cert h I hI

theorem C11_euf_clause_valid (lits : List (Term × Bool)) (steps : List EUF.Step) (goal : Nat)
    (h : EUF.eufClauseCheck lits steps goal = true) (I : Interp) (hI : I.WF) : ∃ l ∈ lits, evalB I l.1 = !l.2 :=
  EUF.eufClauseCheck_sound lits steps goal h I hI

/-- accepted theory clause ⇒ true under the propositional assignment induced by any well-formed interpretation -/
theorem C11_theory_clause_valid (vm : VarMap) (c : Clause) (cert : Smt.ThCert) (h : Smt.theoryOk vm c cert = true)
    (I : Interp) (hI : I.WF) : Clause.eval (inducedAsg vm I) c = true :=
  Smt.theoryOk_sound vm c cert h I hI

/-- Farkas: a non-negative combination cancelling all unknowns with a contradictory constant refutes the
conjunction over ℚ (hence over ℤ). -/
theorem C11_farkas (cs : List (LA.Ineq × Rat)) (h : LA.farkasCheck cs = true) :
    ¬ ∃ x : Term → Rat, ∀ ik ∈ cs, ik.1.holds x := LA.farkas_sound cs h

/-- integer split clauses: `z ≤ ⌊r⌋ ∨ ⌈r⌉ ≤ z` for every integer `z` and rational `r` -/
theorem C11_split_valid (z : Int) (r : Rat) : z ≤ r.floor ∨ r.ceil ≤ z := by
  rw [Rat.le_floor_iff, Rat.ceil_le_iff]; exact le_total _ _

/-! Non-vacuity: `x ≤ 0 ∨ 1 ≤ x` over the integers is accepted with weights (1, 1); over the reals it is not. -/
def exX : Term := .app (.var 0 .int) []
def exXr : Term := .app (.var 0 .real) []
def n0 : Term := .app (.num 0) []
def n1 : Term := .app (.num 1) []
example : LA.laClauseCheck [(.app .leq [exX, n0], false), (.app .leq [n1, exX], false)] (.farkas [1, 1]) = true := by
  decide +kernel
example : LA.laClauseCheck [(.app .leq [exXr, n0], false), (.app .leq [n1, exXr], false)] (.farkas [1, 1]) = false := by
  decide +kernel

end Osmt.Properties
