import OsmtProofs.Quote
/-!
# C17 — printed SMT-LIB reads back to the same object (names)

The part of printing that a theorem carries is the treatment of symbol names (`Logic::protectName`, mirrored in
`Osmt/Quote.lean` and compared with the code on generated names every run): for every non-empty name without bars and
backslashes, what is printed is a symbol token that reads back as exactly that name (`C17_protect_roundtrip`,
`C17_protect_is_symbol`), and every name that is printed between bars would not read back as itself if printed bare
(`C17_quoted_needed`: characters outside the simple-symbol set, number-like names, lexer keywords).
That whole printed objects (models, values, cores, interpolants, dumped queries) read back to what they were is checked
per run by re-reading them with this project's reader and with opensmt itself.
-/
namespace Osmt.Properties
open Osmt.Quote

theorem C17_protect_roundtrip (s : List Char) (hne : s ≠ []) (hclean : s.all (fun c => c != '|' && c != '\\') = true) :
    readSymbol (protect s) = some s := protect_roundtrip s hne hclean

theorem C17_protect_is_symbol (s : List Char) (hne : s ≠ []) (hclean : s.all (fun c => c != '|' && c != '\\') = true) :
    (readSymbol (protect s)).isSome = true := by
  rw [protect_roundtrip s hne hclean]; rfl

theorem C17_quoted_needed (s : List Char) (hclean : s.all (fun c => c != '|' && c != '\\') = true) (h : needsQuote s = true) :
    readSymbol s ≠ some s := by
  cases s with
  | nil => exact nofun
  | cons c r => rw [readSymbol_bare r (head_ne_bar hclean), if_pos h]; exact nofun

example : protect "a b".toList = "|a b|".toList ∧ protect "-1".toList = "|-1|".toList ∧ protect "let".toList = "|let|".toList ∧
    protect "x!0".toList = "x!0".toList ∧ protect "!".toList = "|!|".toList := by
  -- the kernel decodes the bytes of a literal for `toList`, quadratic in its length, and `simpleChars` is long;
  -- a literal unifies with `String.ofList _`, and `String.toList_ofList` hands the kernel the list
  have h : simpleChars = _ := String.toList_ofList
  unfold protect needsQuote hasQuotableChars isSimpleChar
  rw [h]
  decide +kernel

end Osmt.Properties
