import OsmtProofs.Front
/-!
# C19 — a rejected command leaves the solver state unchanged

The front-end machine (`Osmt.Front`): logic / incremental flags, assertion levels, scoped names (those introduced inside
terms included), declarations and the record of accepted assertions.  For every state and command, a command answered
`err` returns the state it was given (`C19_rejected_is_noop`); hence, for every script, every position and every command
that is rejected there, the script with the command inserted ends in the same state and answers every other command
alike (`C19_insert_rejected`), and a whole script is equivalent to the script of its accepted commands
(`C19_run_accepted`).  The tie compares the accept / reject pattern and the active assertions of the machine with the
executable on generated scripts, and the executable with itself on the script with and without the rejected commands.
Abstracted: what the solver computes from the state (answers, models, cores) — compared on the executable directly.
-/
namespace Osmt.Properties
open Osmt.Front

theorem C19_rejected_is_noop (s : St) (c : Cmd) (h : (step s c).2 = .err) : (step s c).1 = s := step_err_id s c h

theorem C19_insert_rejected (s : St) (p q : List Cmd) (c : Cmd) (h : (step (run s p).1 c).2 = .err) :
    (run s (p ++ c :: q)).1 = (run s (p ++ q)).1 ∧
    (run s (p ++ c :: q)).2 = (run s p).2 ++ .err :: (run (run s p).1 q).2 ∧
    (run s (p ++ q)).2 = (run s p).2 ++ (run (run s p).1 q).2 := by
  rw [run_append, run_append, run_cons, step_err_id _ c h, h]
  exact ⟨rfl, rfl, rfl⟩

theorem C19_run_accepted (s : St) (cs : List Cmd) : (run s cs).1 = (run s (accepted s cs)).1 :=
  (congrArg Prod.fst (run_accepted_eq s cs)).symm

/-- non-vacuity: a pop beyond the stack and an assertion with a taken name are rejected and change nothing; the inner
name of the rejected assertion is free afterwards -/
example :
    let s0 : St := (run {} [.setLogic, .push 1, .assert 0 true [7]]).1
    (step s0 (.pop 4)).2 = .err ∧ (step s0 (.pop 4)).1 = s0 ∧
    (step s0 (.assert 1 true [8, 7])).2 = .err ∧ (step s0 (.assert 1 true [8, 7])).1 = s0 ∧
    (step s0 (.assert 2 true [8])).2 = .ok := by decide

end Osmt.Properties
