import Osmt.Term
/-! What `eval` / `evalB` do on each operator, and what well-formedness says about the value of a declared symbol.
The equations hold by unfolding; `rfl` is also much cheaper to check here than rewriting with the equation lemmas of `eval`
and `applyOp`, which each proof would have to generate again. -/
namespace Osmt

@[simp] theorem Val.toBool_b (x : Bool) : (Val.b x).toBool = x := rfl

theorem evalB_not (I : Interp) (t : Term) : evalB I (.app .not [t]) = !evalB I t := rfl
theorem evalB_and (I : Interp) (ts : List Term) : evalB I (.app .and ts) = ts.all (evalB I) := by
  show (evalList I ts).all Val.toBool = _
  rw [evalList_eq_map, List.all_map]; rfl
theorem evalB_or (I : Interp) (ts : List Term) : evalB I (.app .or ts) = ts.any (evalB I) := by
  show (evalList I ts).any Val.toBool = _
  rw [evalList_eq_map, List.any_map]; rfl
theorem evalB_xor (I : Interp) (a b : Term) : evalB I (.app .xor [a, b]) = (evalB I a != evalB I b) := rfl
theorem evalB_eq (I : Interp) (a b : Term) : evalB I (.app .eq [a, b]) = decide (eval I a = eval I b) :=
  Bool.and_true _

theorem evalB_leq (I : Interp) (a b : Term) :
    evalB I (.app .leq [a, b]) = decide ((eval I a).toRat ≤ (eval I b).toRat) := Bool.and_true _
theorem evalB_lt (I : Interp) (a b : Term) :
    evalB I (.app .lt [a, b]) = decide ((eval I a).toRat < (eval I b).toRat) := Bool.and_true _
theorem evalB_geq (I : Interp) (a b : Term) :
    evalB I (.app .geq [a, b]) = decide ((eval I b).toRat ≤ (eval I a).toRat) := Bool.and_true _
theorem evalB_gt (I : Interp) (a b : Term) :
    evalB I (.app .gt [a, b]) = decide ((eval I b).toRat < (eval I a).toRat) := Bool.and_true _

theorem eval_ite (I : Interp) (c a b : Term) :
    eval I (.app .ite [c, a, b]) = if evalB I c = true then eval I a else eval I b := rfl

theorem eval_var (I : Interp) (id : Nat) (s : Srt) (as : List Term) : eval I (.app (.var id s) as) = I.var id s := rfl
theorem eval_uf (I : Interp) (id : Nat) (s : Srt) (as : List Term) :
    eval I (.app (.uf id s) as) = I.uf id s (evalList I as) := rfl

theorem eval_var_hasSort {I : Interp} (hI : I.WF) (id : Nat) (s : Srt) (as : List Term) :
    (eval I (.app (.var id s) as)).hasSort s = true := hI.1 id s
theorem eval_uf_hasSort {I : Interp} (hI : I.WF) (id : Nat) (s : Srt) (as : List Term) :
    (eval I (.app (.uf id s) as)).hasSort s = true := hI.2 id s _

theorem Val.hasSort_bool {v : Val} (h : v.hasSort .bool = true) : v = .b v.toBool := by
  cases v <;> first | rfl | cases h
theorem Val.hasSort_num {v : Val} {s : Srt} (h : v.hasSort s = true) (hs : s = .int ∨ s = .real) : v = .n v.toRat := by
  cases v <;> rcases hs with rfl | rfl <;> first | rfl | cases h
theorem Val.hasSort_int {v : Val} (h : v.hasSort .int = true) : v.toRat.den = 1 := by
  cases v <;> first | exact of_decide_eq_true h | cases h

/-- A clause of `(atom, negated?)` literals has a true literal exactly if its literals are not all false.  The kernels
prove the left side from the right: they refute the conjunction of the negated literals. -/
theorem exists_lit_true_iff {I : Interp} {lits : List (Term × Bool)} :
    (∃ l ∈ lits, evalB I l.1 = !l.2) ↔ ¬ ∀ l ∈ lits, evalB I l.1 = l.2 :=
  ⟨fun ⟨l, hl, hv⟩ hall => (Bool.eq_not_self _).mp ((hall l hl).symm.trans hv),
   fun h => Classical.byContradiction fun hno => h fun l hl =>
    (Bool.eq_not_of_ne fun e => hno ⟨l, hl, e⟩).trans (Bool.not_not _)⟩

end Osmt
