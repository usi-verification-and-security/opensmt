import Osmt.Rat
import Mathlib.Data.Rat.Defs
import Mathlib.Data.Rat.Lemmas
import Mathlib.Data.Nat.GCD.Basic
import Mathlib.Data.Int.GCD
import Mathlib.Algebra.Order.Ring.Unbundled.Rat
import OsmtProofs.Basics
/-! Exactness and canonicity of the `FastRational` mirror.

A well-formed value holds the numerator and denominator of the `Rat` it denotes (`mkRat_reduced`), so the
well-formed values are exactly the images of `ofRat` (`ofRat_toRat`).  Each operation is shown to return, as data,
what the GMP path returns: `op a b = ofRat (a.toRat ∘ b.toRat)`.  Exact value, well-formedness, canonicity and
independence of the representation of the operands all follow from that.  The word paths of `multiplication` and
`addition` are the algorithms of core's `Rat.mul` and `Rat.add`; their lemmas are reused. -/
namespace Osmt.FR

theorem gcdLoop_eq : ∀ (fuel a b : Nat), 0 < b → b < fuel → gcdLoop fuel a b = Nat.gcd a b
  | fuel+1, a, b, hb, hf => by
    rw [gcdLoop, Nat.gcd_comm, Nat.gcd_rec]
    by_cases hr : a % b = 0
    · rw [if_pos hr, hr, Nat.gcd_zero_left]
    · rw [if_neg hr, gcdLoop_eq fuel b (a % b) (Nat.pos_of_ne_zero hr)
        (Nat.lt_of_lt_of_le (Nat.mod_lt _ hb) (Nat.le_of_lt_succ hf)), Nat.gcd_comm]

theorem gcdU_eq (a b : Nat) : gcdU a b = Nat.gcd a b := by
  unfold gcdU
  refine ite_ind (· = _) (fun h => by rw [h, Nat.gcd_zero_left]) fun ha => ?_
  refine ite_ind (· = _) (fun h => by rw [h, Nat.gcd_zero_right]) fun hb => ?_
  refine ite_ind (· = _) (fun _ => ?_) fun _ => ?_
  · rw [gcdLoop_eq _ b a (Nat.pos_of_ne_zero ha) (Nat.lt_succ_self a), Nat.gcd_comm]
  · exact gcdLoop_eq _ a b (Nat.pos_of_ne_zero hb) (Nat.lt_succ_self b)

/-- well-formedness: what `isWellFormed()` and the representation discipline require -/
def WFw (n : Int) (d : Nat) : Prop :=
  WORD_MIN ≤ n ∧ n ≤ WORD_MAX ∧ 0 < d ∧ d ≤ UWORD_MAX ∧ Nat.gcd n.natAbs d = 1

def FR.WF : FR → Prop
  | .word n d => WFw n d
  | .big n d => 0 < d ∧ Nat.gcd n.natAbs d = 1 ∧ fits n d = false

theorem fits_iff (n : Int) (d : Nat) : fits n d = true ↔ (WORD_MIN ≤ n ∧ n ≤ WORD_MAX ∧ d ≤ UWORD_MAX) := by
  simp [fits, and_assoc]

theorem mkRat_reduced {n : Int} {d : Nat} (hd : 0 < d) (hc : Nat.gcd n.natAbs d = 1) :
    mkRat n d = ⟨n, d, hd.ne', hc⟩ := (Rat.mk_eq_mkRat ..).symm

/-- the GMP path: the value is kept, and `try_fit_word` leaves a well-formed representation -/
theorem ofRat_sound (q : Rat) : (ofRat q).toRat = q ∧ (ofRat q).WF := by
  unfold ofRat
  by_cases h : fits q.num q.den = true
  · obtain ⟨l, u, v⟩ := (fits_iff ..).mp h
    rw [if_pos h]; exact ⟨Rat.mkRat_self q, l, u, q.den_pos, v, q.reduced⟩
  · rw [if_neg h]; exact ⟨Rat.mkRat_self q, q.den_pos, q.reduced, Bool.eq_false_iff.mpr h⟩

/-- the well-formed values are the images of `ofRat` -/
theorem ofRat_toRat {a : FR} (ha : a.WF) : ofRat a.toRat = a := by
  cases a with
  | word n d =>
    obtain ⟨h1, h2, hd, h4, hc⟩ := ha
    rw [FR.toRat, mkRat_reduced hd hc, ofRat, if_pos ((fits_iff n d).mpr ⟨h1, h2, h4⟩)]
  | big n d =>
    obtain ⟨hd, hc, hf⟩ := ha
    rw [FR.toRat, mkRat_reduced hd hc, ofRat, if_neg (by simp [hf])]

/-- **canonical representation**: well-formed values that are equal as rationals are equal as data, hence have
the same representation and hash -/
theorem canonical (a b : FR) (ha : a.WF) (hb : b.WF) (h : a.toRat = b.toRat) : a = b := by
  rw [← ofRat_toRat ha, ← ofRat_toRat hb, h]

theorem chkWord_eq_some {x y : Int} : chkWord x = some y ↔ (WORD_MIN ≤ x ∧ x ≤ WORD_MAX) ∧ x = y := by
  rw [chkWord, Option.ite_none_right_eq_some, Option.some.injEq]

theorem chkUWord_eq_some {x y : Nat} : chkUWord x = some y ↔ x ≤ UWORD_MAX ∧ x = y := by
  rw [chkUWord, Option.ite_none_right_eq_some, Option.some.injEq]

theorem chkSumL_some {a b n : ℤ} (h : chkSumL a b = some n) : n = a + b :=
  (Option.some.inj (Option.ite_none_left_eq_some.mp (Option.ite_none_left_eq_some.mp h).2).2).symm

/-- a word-path exit: numerator and denominator of the result, passed by `CHECK_WORD` and `CHECK_UWORD`, are what
`try_fit_word` makes of it -/
theorem word_eq_ofRat {q : ℚ} {zn : ℤ} {zd : ℕ} (h1 : chkWord q.num = some zn) (h2 : chkUWord q.den = some zd) :
    FR.word zn zd = ofRat q := by
  obtain ⟨⟨l, u⟩, rfl⟩ := chkWord_eq_some.mp h1
  obtain ⟨v, rfl⟩ := chkUWord_eq_some.mp h2
  rw [ofRat, if_pos ((fits_iff ..).mpr ⟨l, u, v⟩)]

/-- the C++ skips a division by a gcd of 1 -/
theorem ite_ediv (x : ℤ) {g : ℕ} {c : Prop} [Decidable c] (h : ¬c → g = 1) :
    (if c then x / (g : ℤ) else x) = x / (g : ℤ) :=
  ite_ind (· = x / (g : ℤ)) (fun _ => rfl) fun hc => by rw [h hc, Nat.cast_one, Int.ediv_one]

theorem ite_div (x : ℕ) {g : ℕ} {c : Prop} [Decidable c] (h : ¬c → g = 1) :
    (if c then x / g else x) = x / g :=
  ite_ind (· = x / g) (fun _ => rfl) fun hc => by rw [h hc, Nat.div_one]

/-- the shared final reduction: if the gcd fits a `uword` (no truncation), the result is the reduced fraction -/
theorem reduceND_eq {n zn : ℤ} {d zd : ℕ} (hd : 0 < d) (hg : Nat.gcd n.natAbs d ≤ UWORD_MAX)
    (h : reduceND n d = some (zn, zd)) : FR.word zn zd = ofRat (mkRat n d) := by
  have hg' : Nat.gcd n.natAbs d < 2 ^ 32 := Nat.lt_succ_of_le hg
  unfold reduceND at h
  rw [gcdU_eq, Nat.mod_eq_of_lt hg'] at h
  dsimp only at h
  rw [ite_ediv _ not_not.mp, ite_div _ not_not.mp] at h
  split at h
  · rename_i h1 h2
    obtain ⟨rfl, rfl⟩ := Prod.mk.inj (Option.some.inj h)
    refine word_eq_ofRat ?_ ?_
    · rwa [Rat.num_mkRat, if_neg hd.ne', Nat.gcd_comm]
    · rwa [Rat.den_mkRat, if_neg hd.ne', Nat.gcd_comm]
  · cases h

/-- Knuth 4.5.1: adding reduced fractions over the lcm of the denominators leaves at most `gcd ad bd` to cancel.
This is why storing `gcd(|n|, d)` in a 32-bit word in `FastRational::addition` loses nothing.  Core's `Rat.add`
rests on the same fact. -/
theorem knuth_gcd_dvd {an bn : ℤ} {ad bd : ℕ} (had : 0 < ad) (hbd : 0 < bd)
    (hac : an.natAbs.gcd ad = 1) (hbc : bn.natAbs.gcd bd = 1) :
    (an * ↑(bd / ad.gcd bd) + bn * ↑(ad / ad.gcd bd)).natAbs.gcd (ad * (bd / ad.gcd bd)) ∣ ad.gcd bd := by
  have := Rat.add.aux ⟨an, ad, had.ne', hac⟩ ⟨bn, bd, hbd.ne', hbc⟩ rfl rfl rfl
  rw [← Nat.mul_div_assoc _ (Nat.gcd_dvd_right ..), ← Nat.div_mul_right_comm (Nat.gcd_dvd_left ..)]
  exact this ▸ Nat.gcd_dvd_right ..

theorem mkRat_add_lcm (an bn : ℤ) {ad bd : ℕ} (had : ad ≠ 0) (hbd : bd ≠ 0) :
    mkRat (an * ↑(bd / ad.gcd bd) + bn * ↑(ad / ad.gcd bd)) (ad * (bd / ad.gcd bd)) =
      mkRat an ad + mkRat bn bd := by
  have hg : ad.gcd bd ≠ 0 := Nat.gcd_ne_zero_left had
  rw [Rat.mkRat_add_mkRat _ _ had hbd, ← Rat.mkRat_mul_right hg, add_mul, mul_assoc, mul_assoc, mul_assoc,
    ← Nat.cast_mul, ← Nat.cast_mul, Nat.div_mul_cancel (Nat.gcd_dvd_right ..), Nat.div_mul_cancel (Nat.gcd_dvd_left ..)]

/-- the integer-operand branches of `addition` -/
theorem add_int {an n : ℤ} {ad : ℕ} (ha : WFw an ad) (k : ℤ) (h : chkWord (an + k * ad) = some n) :
    FR.word n ad = ofRat (mkRat an ad + mkRat k 1) := by
  obtain ⟨⟨l, u⟩, rfl⟩ := chkWord_eq_some.mp h
  obtain ⟨-, -, had, hu, hc⟩ := ha
  rw [← ofRat_toRat (a := .word _ ad) ⟨l, u, had, hu, (Int.gcd_add_mul_right_left (ad : ℤ) an k).trans hc⟩,
    Rat.mkRat_add_mkRat _ _ had.ne' one_ne_zero, Nat.cast_one, mul_one, mul_one, FR.toRat]

/-- `addition` on two word-valid operands, in every branch: the three shortcuts, the two integer-operand branches,
the general branch with both gcd reductions (including the 32-bit store of the second gcd), and every fall-back to
GMP (where both sides are the same term). -/
theorem add_word_eq (an : ℤ) (ad : ℕ) (bn : ℤ) (bd : ℕ) (ha : WFw an ad) (hb : WFw bn bd) :
    add (.word an ad) (.word bn bd) = ofRat (mkRat an ad + mkRat bn bd) := by
  have had := ha.2.2.1
  have hbd := hb.2.2.1
  unfold add
  dsimp only
  refine ite_eq_of (fun h => ?_) ?_
  · rw [h, Rat.zero_mkRat, add_zero]; exact (ofRat_toRat (a := .word an ad) ha).symm
  refine ite_eq_of (fun h => ?_) ?_
  · rw [h, Rat.zero_mkRat, zero_add]; exact (ofRat_toRat (a := .word bn bd) hb).symm
  refine ite_eq_of (fun h => ?_) ?_
  · rw [h.1, h.2.2, ← Rat.neg_mkRat, neg_add_cancel]; rfl
  refine ite_eq_of (fun h => ?_) ?_
  · rw [h]
    cases hc : chkWord _ with
    | none => rfl
    | some n => exact add_int ha bn hc
  refine ite_eq_of (fun h => ?_) ?_
  · rw [h, add_comm (mkRat an 1)]
    cases hc : chkWord _ with
    | none => rfl
    | some n => exact add_int hb an hc
  -- the general branch: factor `an`, `bn` out of the two `if common ≠ 1`, drop the guards (a division by 1), and read the
  -- integer divisions as casts of the natural ones, which is the form `mkRat_add_lcm` and `knuth_gcd_dvd` speak of
  rw [gcdU_eq, ← mul_ite, ← mul_ite, ite_ediv _ not_not.mp, ite_ediv _ not_not.mp,
    ← Int.natCast_ediv, ← Int.natCast_ediv]
  cases hs : chkSumL _ _ with
  | none => rfl
  | some n =>
    have hD : ad * (bd / ad.gcd bd) < 2 ^ 64 :=
      calc ad * (bd / ad.gcd bd) ≤ UWORD_MAX * UWORD_MAX :=
            Nat.mul_le_mul ha.2.2.2.1 ((Nat.div_le_self ..).trans hb.2.2.2.1)
        _ < 2 ^ 64 := by decide
    dsimp only
    rw [Nat.mod_eq_of_lt hD]
    cases hr : reduceND _ _ with
    | none => rfl
    | some z =>
      have hk := knuth_gcd_dvd had hbd ha.2.2.2.2 hb.2.2.2.2
      rw [← chkSumL_some hs] at hk
      rw [← mkRat_add_lcm an bn had.ne' hbd.ne', ← chkSumL_some hs]
      refine reduceND_eq (Nat.mul_pos had (Nat.div_gcd_pos_of_pos_right _ hbd)) ?_ hr
      exact (Nat.le_of_dvd (Nat.gcd_pos_of_pos_left _ had) hk).trans
        ((Nat.le_of_dvd had (Nat.gcd_dvd_left ..)).trans ha.2.2.2.1)

/-- **C15 (addition)**: for all well-formed operands, in either representation, `addition` returns what the GMP
path returns: the exact sum in well-formed (canonical) form. -/
theorem add_eq_ofRat (a b : FR) (ha : a.WF) (hb : b.WF) : add a b = ofRat (a.toRat + b.toRat) := by
  cases a with
  | big an ad => rfl
  | word an ad =>
    cases b with
    | big bn bd => rfl
    | word bn bd => exact add_word_eq an ad bn bd ha hb

/-- unary minus / `negate()`; `-WORD_MIN` leaves the word range and goes through GMP -/
theorem neg_eq_ofRat (a : FR) (ha : a.WF) : neg a = ofRat (-a.toRat) := by
  cases a with
  | big n d => rfl
  | word n d =>
    obtain ⟨l, u, hd, hu, hc⟩ := ha
    rw [neg, FR.toRat, Rat.neg_mkRat]
    refine ite_eq_of (fun h => ?_) rfl
    have hb : WORD_MIN ≤ -n ∧ -n ≤ WORD_MAX := by unfold WORD_MIN WORD_MAX at *; omega
    exact (ofRat_toRat (a := .word (-n) d) ⟨hb.1, hb.2, hd, hu, by rwa [Int.natAbs_neg]⟩).symm

theorem sign_spec {α : Type} [LinearOrder α] (x y : α) :
    let c : ℤ := if x < y then -1 else if x > y then 1 else 0
    (c = -1 ↔ x < y) ∧ (c = 1 ↔ x > y) ∧ (c = 0 ↔ x = y) := by
  rcases lt_trichotomy x y with h | h | h
  · simp [h, h.not_gt, h.ne]
  · simp [h]
  · simp [h, h.not_gt, h.ne']

theorem mkRat_lt_iff {an bn : ℤ} {ad bd : ℕ} (ha : WFw an ad) (hb : WFw bn bd) :
    mkRat an ad < mkRat bn bd ↔ an * bd < bn * ad := by
  rw [Rat.lt_iff, mkRat_reduced ha.2.2.1 ha.2.2.2.2, mkRat_reduced hb.2.2.1 hb.2.2.2.2]

/-- the word path of `compare` agrees with the GMP path (it compares cross products in 64 bits: |num| ≤ 2^31 and
den < 2^32, so the products do not overflow) -/
theorem compare_eq (a b : FR) (ha : a.WF) (hb : b.WF) :
    compare a b = if a.toRat < b.toRat then -1 else if a.toRat > b.toRat then 1 else 0 := by
  cases a with
  | big an ad => rfl
  | word an ad =>
    cases b with
    | big bn bd => rfl
    | word bn bd =>
      have hp : (0 : ℤ) < ad := Int.natCast_pos.mpr ha.2.2.1
      simp only [compare, cmpInt, FR.toRat, gt_iff_lt, mkRat_lt_iff ha hb, mkRat_lt_iff hb ha]
      refine ite_eq_of (fun h => ?_) rfl
      simp only [h, Int.mul_lt_mul_right hp]

theorem isZeroW_toRat : ∀ (a : FR), isZeroW a = true → a.toRat = 0
  | .word n d, h => by rw [FR.toRat, eq_of_beq h, Rat.zero_mkRat]
  | .big _ _, h => nomatch h

theorem isOneW_toRat : ∀ (a : FR), isOneW a = true → a.toRat = 1
  | .word n d, h => by
    obtain ⟨hn, hd⟩ := Bool.and_eq_true_iff.mp h
    rw [FR.toRat, eq_of_beq hn, eq_of_beq hd]; rfl
  | .big _ _, h => nomatch h

/-- core's `Rat.mul` cancels crosswise before multiplying, as `FastRational::multiplication` does, so the reduced
form of the product needs no proof here -/
theorem num_den_mul (a b : ℚ) :
    (a * b).num = a.num / (a.num.natAbs.gcd b.den : ℕ) * (b.num / (b.num.natAbs.gcd a.den : ℕ)) ∧
    (a * b).den = a.den / b.num.natAbs.gcd a.den * (b.den / a.num.natAbs.gcd b.den) := by
  show (Rat.mul a b).num = _ ∧ (Rat.mul a b).den = _
  unfold Rat.mul
  simp only [Int.divExact_eq_ediv, Nat.divExact_eq_div, and_self]

theorem mul_eq_ofRat (a b : FR) (ha : a.WF) (hb : b.WF) : mul a b = ofRat (a.toRat * b.toRat) := by
  unfold mul
  refine ite_eq_of (fun h => ?_) ?_
  · have h0 : a.toRat * b.toRat = 0 := by
      rcases Bool.or_eq_true .. |>.mp h with h | h
      · rw [isZeroW_toRat a h, zero_mul]
      · rw [isZeroW_toRat b h, mul_zero]
    rw [h0]; rfl
  refine ite_eq_of (fun h => ?_) ?_
  · rw [isOneW_toRat a h, one_mul]; exact (ofRat_toRat hb).symm
  refine ite_eq_of (fun h => ?_) ?_
  · rw [isOneW_toRat b h, mul_one]; exact (ofRat_toRat ha).symm
  cases a with
  | big an ad => rfl
  | word an ad =>
    cases b with
    | big bn bd => rfl
    | word bn bd =>
      obtain ⟨-, -, had, -, hac⟩ := ha
      obtain ⟨-, -, hbd, -, hbc⟩ := hb
      have hq := num_den_mul (mkRat an ad) (mkRat bn bd)
      simp only [FR.toRat, gcdU_eq]
      rw [mkRat_reduced had hac, mkRat_reduced hbd hbc] at hq ⊢
      rw [Nat.gcd_comm bn.natAbs] at hq
      have p1 (h : ¬ an.natAbs.gcd bd > 1) : an.natAbs.gcd bd = 1 :=
        Nat.le_antisymm (Nat.not_lt.mp h) (Nat.gcd_pos_of_pos_right _ hbd)
      have p2 (h : ¬ ad.gcd bn.natAbs > 1) : ad.gcd bn.natAbs = 1 :=
        Nat.le_antisymm (Nat.not_lt.mp h) (Nat.gcd_pos_of_pos_left _ had)
      rw [ite_ediv _ p1, ite_ediv _ p2, ite_div _ p1, ite_div _ p2]
      cases h1 : chkWord _ with
      | none => rfl
      | some zn =>
        cases h2 : chkUWord _ with
        | none => rfl
        | some zd => exact word_eq_ofRat (hq.1 ▸ h1) (hq.2 ▸ h2)

end Osmt.FR
