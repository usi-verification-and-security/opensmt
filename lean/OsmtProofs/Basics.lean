/-! What the proofs of several modules share and core Lean lacks: case analysis on an `if` as a lemma, three facts about
lists without duplicates, and the facts that hold of every event machine whose `run` feeds a list of events to a partial
`step`. -/
namespace Osmt

/-- Case analysis on an `if` as a lemma.  A property of a definition that is a tree of `if`s is checked on its leaves by
applying this repeatedly; the `split` tactic is very slow on such trees. -/
theorem ite_ind {α} (P : α → Prop) {c : Prop} [Decidable c] {a b : α} (ha : c → P a) (hb : ¬c → P b) :
    P (if c then a else b) := by
  split <;> simp_all

/-- A guarded shortcut `if c then x else y` is justified as soon as `x` does what `y` does whenever `c` holds: that the
guard failed is not needed for the other branch. -/
theorem apply_ite_eq {α β} {f : α → β} {c : Prop} [Decidable c] {x y : α} {r : β}
    (hx : c → f x = r) (hy : f y = r) : f (if c then x else y) = r :=
  ite_ind (f · = r) hx fun _ => hy

theorem ite_eq_of {α} {c : Prop} [Decidable c] {x y r : α} (hx : c → x = r) (hy : y = r) : (if c then x else y) = r :=
  apply_ite_eq (f := id) hx hy

section
open List
theorem inj_of_nodup_map {α β : Type} {f : α → β} {l : List α} (h : (l.map f).Nodup) {a b : α} (ha : a ∈ l) (hb : b ∈ l)
    (e : f a = f b) : a = b := by
  induction l with
  | nil => cases ha
  | cons x r ih =>
    rw [map_cons, nodup_cons] at h
    rcases mem_cons.1 ha with rfl | ha' <;> rcases mem_cons.1 hb with rfl | hb'
    · rfl
    · exact absurd (e ▸ mem_map_of_mem hb') h.1
    · exact absurd (e ▸ mem_map_of_mem ha') h.1
    · exact ih h.2 ha' hb'

theorem nodup_concat {α : Type} {l : List α} {a : α} (h : l.Nodup) (ha : a ∉ l) : (l ++ [a]).Nodup :=
  nodup_append.2 ⟨h, nodup_cons.2 ⟨not_mem_nil, nodup_nil⟩, fun _ hx _ hb e => ha (e.trans (mem_singleton.1 hb) ▸ hx)⟩

theorem map_erase_of_nodup {α β : Type} [BEq α] [LawfulBEq α] [BEq β] [LawfulBEq β] (f : α → β) (a : α) :
    ∀ l : List α, (l.map f).Nodup → a ∈ l → (l.erase a).map f = (l.map f).erase (f a)
  | x :: r, hn, hm => by
    rw [map_cons, nodup_cons] at hn
    cases he : x == a with
    | true => simp [eq_of_beq he]
    | false =>
      have hr : a ∈ r := (mem_cons.1 hm).resolve_left fun e => by simp [e] at he
      have hf : ¬ (f x == f a) = true := fun e => hn.1 (eq_of_beq e ▸ mem_map_of_mem hr)
      rw [erase_cons_tail (by simp [he]), map_cons, map_cons, erase_cons_tail hf, map_erase_of_nodup f a r hn.2 hr]
end

/-- `run` feeds a list of events to the partial `step` and stops at the first event that `step` rejects -/
structure IsRun {σ ε : Type} (step : σ → ε → Option σ) (run : σ → List ε → Option σ) : Prop where
  nil : ∀ s, run s [] = some s
  cons : ∀ s e es, run s (e :: es) = (step s e).bind (run · es)

namespace IsRun
variable {σ ε : Type} {step : σ → ε → Option σ} {run : σ → List ε → Option σ} (hr : IsRun step run)
include hr

theorem inv {P : σ → Prop} (hstep : ∀ {s e s'}, step s e = some s' → P s → P s') :
    ∀ {es s s'}, run s es = some s' → P s → P s'
  | [], s, s', h, hp => by rw [hr.nil] at h; cases h; exact hp
  | e :: es, s, s', h, hp => by
    rw [hr.cons] at h
    obtain ⟨s1, h1, h2⟩ := Option.bind_eq_some_iff.mp h
    exact inv hstep h2 (hstep h1 hp)

theorem append (s : σ) : ∀ (a b : List ε), run s (a ++ b) = (run s a).bind (run · b)
  | [], b => by rw [hr.nil]; rfl
  | e :: a, b => by
    rw [List.cons_append, hr.cons, hr.cons, Option.bind_assoc]
    exact congrArg _ (funext fun s1 => append s1 a b)

theorem sim {σ' ε' : Type} {step' : σ' → ε' → Option σ'} {run' : σ' → List ε' → Option σ'} (hr' : IsRun step' run')
    (f : σ → σ') (g : ε → ε') (hstep : ∀ {s e s'}, step s e = some s' → step' (f s) (g e) = some (f s')) :
    ∀ {es s s'}, run s es = some s' → run' (f s) (es.map g) = some (f s')
  | [], s, s', h => by rw [hr.nil] at h; cases h; exact hr'.nil _
  | e :: es, s, s', h => by
    rw [hr.cons] at h
    obtain ⟨s1, h1, h2⟩ := Option.bind_eq_some_iff.mp h
    rw [List.map_cons, hr'.cons, hstep h1]
    exact sim hr' f g hstep h2

end IsRun
end Osmt
