import Osmt.Rewrite
import OsmtProofs.Eval
/-! What the C13 theorems about the preprocessing rewrites rest on: replacement of equals (`subst`), coincidence and
substitution for one variable (`setVar`, `substVar`), and the two list inductions (`pairsNe`, `flattenArgs`). -/
namespace Osmt.Rewrite
open Osmt

theorem lookup_mem {σ : List (Term × Term)} {t s : Term} (h : lookup σ t = some s) : (t, s) ∈ σ := by
  obtain ⟨e, hf, rfl⟩ := Option.map_eq_some_iff.mp h
  have ht : e.1 = t := eq_of_beq (List.find?_some hf :)
  exact ht ▸ List.mem_of_find?_eq_some hf

mutual
  theorem subst_eval (I : Interp) (σ : List (Term × Term)) (hσ : ∀ e ∈ σ, eval I e.1 = eval I e.2) :
      ∀ t, eval I (subst σ t) = eval I t
    | .app o as => by
      rw [subst]
      cases hs : lookup σ (.app o as) with
      | some s => exact (hσ _ (lookup_mem hs)).symm
      | none => exact congrArg (applyOp I o) (substList_eval I σ hσ as)
  theorem substList_eval (I : Interp) (σ : List (Term × Term)) (hσ : ∀ e ∈ σ, eval I e.1 = eval I e.2) :
      ∀ ts, evalList I (substList σ ts) = evalList I ts
    | [] => rfl
    | t :: r => by
      show eval I (subst σ t) :: evalList I (substList σ r) = eval I t :: evalList I r
      rw [subst_eval I σ hσ t, substList_eval I σ hσ r]
end

theorem applyOp_setVar (I : Interp) (id : Nat) (s : Srt) (v : Val) (o : Op) (h : o ≠ .var id s) (vs : List Val) :
    applyOp (setVar I id s v) o vs = applyOp I o vs := by
  cases o
  case var i s' => exact if_neg fun ⟨a, b⟩ => h (by rw [a, b])
  all_goals rfl

mutual
  theorem eval_setVar (I : Interp) (id : Nat) (s : Srt) (v : Val) :
      ∀ t, occurs id s t = false → eval (setVar I id s v) t = eval I t
    | .app o as, h => by
      rw [occurs, Bool.or_eq_false_iff, beq_eq_false_iff_ne] at h
      show applyOp (setVar I id s v) o (evalList (setVar I id s v) as) = applyOp I o (evalList I as)
      rw [evalList_setVar I id s v as h.2, applyOp_setVar I id s v o h.1]
  theorem evalList_setVar (I : Interp) (id : Nat) (s : Srt) (v : Val) :
      ∀ ts, occursList id s ts = false → evalList (setVar I id s v) ts = evalList I ts
    | [], _ => rfl
    | t :: r, h => by
      rw [occursList, Bool.or_eq_false_iff] at h
      show eval (setVar I id s v) t :: evalList (setVar I id s v) r = eval I t :: evalList I r
      rw [eval_setVar I id s v t h.1, evalList_setVar I id s v r h.2]
end

theorem eval_setVar_self (I : Interp) (id : Nat) (s : Srt) (v : Val) (as : List Term) :
    eval (setVar I id s v) (.app (.var id s) as) = v :=
  if_pos ⟨rfl, rfl⟩

theorem setVar_self (I : Interp) (id : Nat) (s : Srt) : setVar I id s (I.var id s) = I := by
  cases I
  simp only [setVar, Interp.mk.injEq, and_true]
  funext i s'
  split
  · rename_i hc; rw [hc.1, hc.2]
  · rfl

mutual
  /-- eliminating a variable by its definition is evaluating in the interpretation extended with the definition's value -/
  theorem substVar_eval (I : Interp) (id : Nat) (s : Srt) (tgt : Term) :
      ∀ t, eval (setVar I id s (eval I tgt)) t = eval I (substVar id s tgt t)
    | .app o as => by
      rw [substVar]
      by_cases ho : o = .var id s
      · rw [if_pos ho, ho]; exact eval_setVar_self ..
      · rw [if_neg ho]
        show applyOp _ o (evalList _ as) = applyOp I o (evalList I (substVarList id s tgt as))
        rw [substVarList_eval I id s tgt as, applyOp_setVar I id s _ o ho]
  theorem substVarList_eval (I : Interp) (id : Nat) (s : Srt) (tgt : Term) :
      ∀ ts, evalList (setVar I id s (eval I tgt)) ts = evalList I (substVarList id s tgt ts)
    | [] => rfl
    | t :: r => by
      show eval _ t :: evalList _ r = eval I (substVar id s tgt t) :: evalList I (substVarList id s tgt r)
      rw [substVar_eval I id s tgt t, substVarList_eval I id s tgt r]
end

theorem pairsNe_all (I : Interp) : ∀ args : List Term, (pairsNe args).all (evalB I) = pairwiseDistinct (args.map (eval I))
  | [] => rfl
  | a :: r => by
    have h : ∀ b, evalB I (.app .not [.app .eq [a, b]]) = decide (eval I b ≠ eval I a) := fun b => by
      rw [evalB_not, evalB_eq, ← decide_not]; exact decide_eq_decide.mpr ne_comm
    rw [pairsNe, List.all_append, List.all_map, pairsNe_all I r, List.map_cons, pairwiseDistinct, List.all_map]
    exact congrArg (r.all · && _) (funext h)

/-- flattening under an operator that folds its arguments: `F` is the fold (`all` for `and`, `any` for `or`), `c` its step -/
theorem flattenArgs_fold (I : Interp) (o : Op) (c : Bool → Bool → Bool) (F : List Val → Bool)
    (ho : ∀ vs, (applyOp I o vs).toBool = F vs) (happ : ∀ as bs, F (as ++ bs) = c (F as) (F bs))
    (hcons : ∀ v r, F (v :: r) = c v.toBool (F r)) :
    ∀ args : List Term, F (evalList I (flattenArgs o args)) = F (evalList I args)
  | [] => rfl
  | (.app o' as) :: r => by
    rw [flattenArgs]
    split
    · next h =>
      rw [evalList_eq_map, List.map_append, happ, ← evalList_eq_map, ← evalList_eq_map, flattenArgs_fold I o c F ho happ hcons r]
      show _ = F (applyOp I o' (evalList I as) :: evalList I r)
      rw [hcons, h, ho]
    · show F (eval I (.app o' as) :: _) = F (eval I (.app o' as) :: _)
      rw [hcons, hcons, flattenArgs_fold I o c F ho happ hcons r]

end Osmt.Rewrite
