import Osmt.Mk
import OsmtProofs.Skel
import OsmtProofs.Basics
/-! Semantic correctness of the mirrored Boolean constructors: each returns a term equivalent to the operator
applied to its arguments, in every interpretation. -/
namespace Osmt.Mk
open Osmt

@[simp] theorem evalB_tru (I : Interp) : evalB I tru = true := rfl
@[simp] theorem evalB_fls (I : Interp) : evalB I fls = false := rfl
theorem isTrue_iff {t : Term} : isTrue t = true ↔ t = tru := decide_eq_true_iff
theorem isFalse_iff {t : Term} : isFalse t = true ↔ t = fls := decide_eq_true_iff

theorem mkNot_eval (I : Interp) (t : Term) : evalB I (mkNot t) = !evalB I t := by
  unfold mkNot
  split
  · exact (Bool.not_not _).symm
  · refine apply_ite_eq (fun h => ?_) (apply_ite_eq (fun h => ?_) rfl)
    · rw [isTrue_iff.mp h]; rfl
    · rw [isFalse_iff.mp h]; rfl

def litEval (I : Interp) (l : Term × Bool) : Bool := if l.2 then evalB I l.1 else !evalB I l.1

theorem toLit_eval (I : Interp) (t : Term) : litEval I (toLit t) = evalB I t := by
  unfold toLit
  split <;> rfl

theorem ofLit_eval (I : Interp) : ∀ l : Term × Bool, evalB I (ofLit l) = litEval I l
  | (_, true) => rfl
  | (t, false) => mkNot_eval I t

theorem litEval_compl (I : Interp) (t : Term) (s : Bool) : litEval I (t, !s) = !litEval I (t, s) := by
  cases s
  · exact (Bool.not_not _).symm
  · rfl

def accAnd (I : Interp) : Option (List (Term × Bool)) → Bool
  | none => false
  | some ls => ls.all (litEval I)

theorem andStep_eval (I : Interp) (acc : Option (List (Term × Bool))) (l : Term × Bool) :
    accAnd I (andStep acc l) = (accAnd I acc && litEval I l) := by
  cases acc with
  | none => rfl
  | some ls =>
    refine apply_ite_eq (fun h => ?_) <| apply_ite_eq (fun h => ?_) <| apply_ite_eq (fun h => ?_) <|
      apply_ite_eq (fun h => ?_) ?_
    · obtain ⟨h1, h2⟩ := Bool.and_eq_true_iff.mp h
      simp [accAnd, litEval, h2, isFalse_iff.mp h1]
    · obtain ⟨h1, h2⟩ := Bool.and_eq_true_iff.mp h
      simp [accAnd, litEval, h2, isTrue_iff.mp h1]
    · exact (Bool.and_eq_left_iff_imp.mpr fun ha => List.all_eq_true.mp ha l (List.contains_iff_mem.mp h)).symm
    · refine (Bool.and_eq_false_imp.mpr fun ha => ?_).symm
      have := List.all_eq_true.mp ha _ (List.contains_iff_mem.mp h)
      rwa [litEval_compl, Bool.not_eq_true'] at this
    · simp [accAnd, List.all_append]

theorem foldl_andStep (I : Interp) : ∀ (lits : List (Term × Bool)) (acc : Option (List (Term × Bool))),
    accAnd I (lits.foldl andStep acc) = (accAnd I acc && lits.all (litEval I))
  | [], acc => (Bool.and_true _).symm
  | l :: r, acc => by rw [List.foldl_cons, foldl_andStep I r, andStep_eval, Bool.and_assoc, List.all_cons]

theorem mkAnd_eval (I : Interp) (args : List Term) : evalB I (mkAnd args) = args.all (evalB I) := by
  have key : accAnd I ((args.map toLit).foldl andStep (some [])) = args.all (evalB I) := by
    rw [foldl_andStep, List.all_map]; exact congrArg (args.all ·) (funext (toLit_eval I))
  rw [← key, mkAnd]
  split <;> rename_i h <;> rw [h]
  · rfl
  · rfl
  · exact (ofLit_eval I _).trans (Bool.and_true _).symm
  · rw [evalB_and, List.all_map]; exact congrArg (List.all _) (funext (ofLit_eval I))

def accOr (I : Interp) : Option (List (Term × Bool)) → Bool
  | none => true
  | some ls => ls.any (litEval I)

theorem orStep_eval (I : Interp) (acc : Option (List (Term × Bool))) (l : Term × Bool) :
    accOr I (orStep acc l) = (accOr I acc || litEval I l) := by
  cases acc with
  | none => rfl
  | some ls =>
    refine apply_ite_eq (fun h => ?_) <| apply_ite_eq (fun h => ?_) <| apply_ite_eq (fun h => ?_) <|
      apply_ite_eq (fun h => ?_) ?_
    · obtain ⟨h1, h2⟩ := Bool.and_eq_true_iff.mp h
      simp [accOr, litEval, h2, isTrue_iff.mp h1]
    · obtain ⟨h1, h2⟩ := Bool.and_eq_true_iff.mp h
      simp [accOr, litEval, h2, isFalse_iff.mp h1]
    · exact (Bool.or_eq_left_iff_imp.mpr fun hl => List.any_eq_true.mpr ⟨l, List.contains_iff_mem.mp h, hl⟩).symm
    · refine (Bool.or_eq_true_iff.mpr ?_).symm
      cases hl : litEval I l
      · exact .inl (List.any_eq_true.mpr ⟨_, List.contains_iff_mem.mp h, by rw [litEval_compl, hl]; rfl⟩)
      · exact .inr rfl
    · simp [accOr, List.any_append]

theorem foldl_orStep (I : Interp) : ∀ (lits : List (Term × Bool)) (acc : Option (List (Term × Bool))),
    accOr I (lits.foldl orStep acc) = (accOr I acc || lits.any (litEval I))
  | [], acc => (Bool.or_false _).symm
  | l :: r, acc => by rw [List.foldl_cons, foldl_orStep I r, orStep_eval, Bool.or_assoc, List.any_cons]

theorem mkOr_eval (I : Interp) (args : List Term) : evalB I (mkOr args) = args.any (evalB I) := by
  have key : accOr I ((args.map toLit).foldl orStep (some [])) = args.any (evalB I) := by
    rw [foldl_orStep, List.any_map]; exact congrArg (args.any ·) (funext (toLit_eval I))
  rw [← key, mkOr]
  split <;> rename_i h <;> rw [h]
  · rfl
  · rfl
  · exact (ofLit_eval I _).trans (Bool.or_false _).symm
  · rw [evalB_or, List.any_map]; exact congrArg (List.any _) (funext (ofLit_eval I))

theorem mkXor_eval (I : Interp) (a b : Term) : evalB I (mkXor a b) = (evalB I a != evalB I b) := by
  unfold mkXor
  refine apply_ite_eq (fun h => ?_) <| apply_ite_eq (fun h => ?_) <| apply_ite_eq (fun h => ?_) <|
    apply_ite_eq (fun h => ?_) <| apply_ite_eq (fun h => ?_) <| apply_ite_eq (fun h => ?_) rfl
  all_goals simp [h, mkNot_eval]

theorem mkImpl_eval (I : Interp) (a b : Term) : evalB I (mkImpl a b) = (!evalB I a || evalB I b) := by
  unfold mkImpl
  refine apply_ite_eq (fun h => ?_) <| apply_ite_eq (fun h => ?_) <| apply_ite_eq (fun h => ?_) ?_
  · simp [isFalse_iff.mp h]
  · simp [isTrue_iff.mp h]
  · obtain ⟨h1, h2⟩ := Bool.and_eq_true_iff.mp h
    simp [isTrue_iff.mp h1, isFalse_iff.mp h2]
  · simp [mkOr_eval, mkNot_eval]

theorem mkIte_eval (I : Interp) (c a b : Term) :
    eval I (mkIte c a b) = if evalB I c then eval I a else eval I b := by
  unfold mkIte
  refine apply_ite_eq (fun h => ?_) <| apply_ite_eq (fun h => ?_) <| apply_ite_eq (fun h => ?_) rfl
  · simp [isTrue_iff.mp h]
  · simp [isFalse_iff.mp h]
  · simp [h]

theorem decide_eval_eq (I : Interp) (hI : I.WF) {l r : Term} (hl : l.isBool = true) (hr : r.isBool = true) :
    decide (eval I l = eval I r) = (evalB I l == evalB I r) := by
  have h : eval I l = eval I r ↔ evalB I l = evalB I r := by
    rw [eval_of_isBool I hI l hl, eval_of_isBool I hI r hr, Val.b.injEq]
  exact decide_eq_decide.mpr h

/-- a constant can be read back from its value, so distinct constants have distinct values -/
theorem isConstant_inj (I : Interp) {l r : Term} (hl : isConstant l = true) (hr : isConstant r = true)
    (h : eval I l = eval I r) : l = r := by
  have back : ∀ {t}, isConstant t = true →
      t = match eval I t with | .n q => .app (.num q) [] | .b true => tru | _ => fls := by
    intro t ht; unfold isConstant at ht; split at ht <;> first | rfl | cases ht
  rw [back hl, back hr, h]

/-- the Boolean simplifications need Boolean-valued arguments, hence a well-formed interpretation -/
theorem mkBinaryEq_eval (I : Interp) (hI : I.WF) (l r : Term) :
    evalB I (mkBinaryEq l r) = decide (eval I l = eval I r) := by
  unfold mkBinaryEq
  by_cases hlr : l = r
  · rw [if_pos hlr, hlr, decide_eq_true rfl]; rfl
  rw [if_neg hlr]
  refine apply_ite_eq (fun h => ?_) <| apply_ite_eq (fun hb => ?_) (evalB_eq I l r)
  · have h := Bool.and_eq_true_iff.mp h
    exact (decide_eq_false fun e => hlr (isConstant_inj I h.1 h.2 e)).symm
  have hb := Bool.and_eq_true_iff.mp hb
  have e := decide_eval_eq I hI hb.1 hb.2
  rw [e]
  refine apply_ite_eq (fun h => ?_) <| apply_ite_eq (fun h => ?_) <| apply_ite_eq (fun h => ?_) <|
    apply_ite_eq (fun h => ?_) <| apply_ite_eq (fun h => ?_) ((evalB_eq I l r).trans e)
  all_goals simp [h, mkNot_eval]

theorem evalB_eq_list (I : Interp) (ts : List Term) : evalB I (.app .eq ts) = allEqAdj (evalList I ts) := rfl

theorem eqChain_eval (I : Interp) (hI : I.WF) : ∀ (args : List Term),
    (eqChain args).all (evalB I) = allEqAdj (evalList I args)
  | [] | [_] => rfl
  | a :: b :: r => by
    rw [eqChain, List.all_cons, mkBinaryEq_eval I hI, eqChain_eval I hI (b :: r)]; rfl

theorem mkEq_eval (I : Interp) (hI : I.WF) (args : List Term) :
    evalB I (mkEq args) = allEqAdj (evalList I args) := by
  unfold mkEq
  split
  · exact (mkBinaryEq_eval I hI _ _).trans (evalB_eq I _ _).symm
  · rw [mkAnd_eval, eqChain_eval I hI]

theorem evalB_distinct (I : Interp) (ts : List Term) :
    evalB I (.app .distinct ts) = pairwiseDistinct (evalList I ts) := rfl

theorem mkDistinctB_eval (I : Interp) (hI : I.WF) : ∀ (args : List Term) (_ : ∀ a ∈ args, a.isBool = true),
    evalB I (mkDistinctB args) = pairwiseDistinct (evalList I args)
  | [], _ | [_], _ => rfl
  | [a, b], _ => by
    rw [mkDistinctB, mkNot_eval, mkEq_eval I hI]
    simp [evalList, allEqAdj, pairwiseDistinct, eq_comm]
  | a :: b :: c :: r, hb => by
    -- three Boolean values are never pairwise distinct
    have pigeon : ∀ x y z : Bool, y ≠ x → z ≠ x → z ≠ y → False := by decide
    refine (Bool.eq_false_iff.mpr fun hd => ?_).symm
    simp only [evalList, pairwiseDistinct, List.all_cons, Bool.and_eq_true, decide_eq_true_eq,
      eval_of_isBool I hI a (hb a (.head _)), eval_of_isBool I hI b (hb b (.tail _ (.head _))),
      eval_of_isBool I hI c (hb c (.tail _ (.tail _ (.head _)))), ne_eq, Val.b.injEq] at hd
    exact pigeon _ _ _ hd.1.1 hd.1.2.1 hd.2.1.1

end Osmt.Mk
